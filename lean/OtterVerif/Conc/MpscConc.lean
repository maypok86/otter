/-
  Conc.MpscConc — interleaving model of the growable MPSC write buffer (internal/deque/queue/mpsc.go) at the level of
  positions: unboundedly many producers, the single consumer, any number of growth steps.

  A position is pIndex/2.  Buffer b has `size b` element cells (position p of buffer b uses cell p mod size b; Props.C16 shows
  that modifiedCalcElementOffset computes exactly that) and a capacity `cap b` = size b - 1 (one cell is needed for the JUMP
  marker) unless it is the largest buffer (size b = M), whose capacity is M.
    limit cs     pushSlowPath: a producer that read the consumer index cs (possibly stale: cs ≤ C) raises producerLimit
    reserve x    CAS producerIndex P → P+1 below the limit: the producer owns position P in the current producer buffer
    publish p    the owner stores its element into the cell of p
    rzStart cs   the buffer is full and may grow: CAS producerIndex to the odd (locked) value
    rzBody x cs  resize: new buffer allocated, x stored at position P in it, old buffer linked, limit set, index released
    rzJump b     resize, last store: JUMP marker into the old buffer's cell of the resize position
    cTake        the consumer finds position C published in its buffer: takes it
    cJump        the consumer finds the JUMP marker at position C: follows the link
  Cells are implicit; the invariant proves that no two positions that are reserved and not yet consumed (nor a JUMP marker)
  ever share a cell — the abstraction loses nothing.
-/
namespace OtterVerif.Conc.MpscConc

structure St where
  P : Nat := 0                          -- next position to reserve
  rz : Bool := false                    -- a producer holds the resize lock (producerIndex odd)
  rcs : Nat := 0                        -- the consumer index that producer had read when it took the lock
  C : Nat := 0                          -- next position to consume
  L : Nat := 0                          -- producerLimit
  nb : Nat := 1                         -- number of buffers allocated; the producer buffer is nb - 1
  cb : Nat := 0                         -- the consumer's buffer
  first : Nat → Nat := fun _ => 0       -- first position living in buffer b
  jumped : Nat → Bool := fun _ => false -- the JUMP marker has been stored into buffer b
  pub : Nat → Bool := fun _ => false    -- position p has been published
  bufOf : Nat → Nat := fun _ => 0       -- the buffer position p lives in
  val : Nat → Nat := fun _ => 0
  delivered : List Nat := []

def upd {α : Type} (f : Nat → α) (i : Nat) (v : α) : Nat → α := fun j => if j = i then v else f j
@[simp] theorem upd_self {α : Type} (f : Nat → α) (i : Nat) (v : α) : upd f i v i = v := by simp [upd]
theorem upd_other {α : Type} {f : Nat → α} {i j : Nat} {v : α} (h : j ≠ i) : upd f i v j = f j := by simp [upd, h]
theorem upd_apply {α : Type} (f : Nat → α) (i : Nat) (v : α) (j : Nat) : upd f i v j = if j = i then v else f j := rfl

/-- the geometry of the buffers: sizes double up to the maximum M -/
structure Geo where
  size : Nat → Nat
  M : Nat
  pos : ∀ b, 2 ≤ size b
  dbl : ∀ b, size (b + 1) = 2 * size b
  le : size 0 ≤ M
  /-- M is size 0 times a power of two: doubling a buffer below the maximum does not overshoot it -/
  dblM : ∀ b, size b < M → size (b + 1) ≤ M

def Geo.cap (g : Geo) (b : Nat) : Nat := if g.size b = g.M then g.M else g.size b - 1

inductive Step (g : Geo) : St → St → Prop
  | limit (s : St) (cs : Nat) : s.rz = false → s.L ≤ s.P → cs ≤ s.C → s.P < cs + g.cap (s.nb - 1) →
      Step g s { s with L := cs + g.cap (s.nb - 1) }
  | reserve (s : St) (x : Nat) : s.rz = false → s.P < s.L →
      Step g s { s with P := s.P + 1, bufOf := upd s.bufOf s.P (s.nb - 1), val := upd s.val s.P x, pub := upd s.pub s.P false }
  | publish (s : St) (p : Nat) : p < s.P → s.pub p = false →
      Step g s { s with pub := upd s.pub p true }
  | rzStart (s : St) (cs : Nat) : s.rz = false → s.L ≤ s.P → cs ≤ s.C → cs + g.cap (s.nb - 1) ≤ s.P → s.P - cs < g.M →
      g.size (s.nb - 1) < g.M → Step g s { s with rz := true, rcs := cs }
  | rzBody (s : St) (x cs : Nat) : s.rz = true → s.rcs ≤ cs → cs ≤ s.C →
      Step g s { s with rz := false, first := upd s.first s.nb s.P, bufOf := upd s.bufOf s.P s.nb, val := upd s.val s.P x,
                        pub := upd s.pub s.P true, L := s.P + min (g.cap s.nb) (g.M - (s.P - cs)), nb := s.nb + 1, P := s.P + 1 }
  | rzJump (s : St) (b : Nat) : b + 1 < s.nb → s.jumped b = false →
      Step g s { s with jumped := upd s.jumped b true }
  | cTake (s : St) : s.C < s.P → s.pub s.C = true → s.bufOf s.C = s.cb →
      Step g s { s with C := s.C + 1, delivered := s.delivered ++ [s.val s.C] }
  | cJump (s : St) : s.cb + 1 < s.nb → s.C = s.first (s.cb + 1) → s.jumped s.cb = true →
      Step g s { s with cb := s.cb + 1 }

inductive Reach (g : Geo) : St → Prop
  | init : Reach g { L := g.size 0 - 1 }
  | step {s s' : St} : Reach g s → Step g s s' → Reach g s'

theorem Geo.cap_le (g : Geo) (b : Nat) : g.cap b ≤ g.size b := by
  unfold Geo.cap; split
  · rename_i h; omega
  · omega

theorem Geo.cap_pos (g : Geo) (b : Nat) : 1 ≤ g.cap b := by
  have := g.pos b
  unfold Geo.cap; split
  · rename_i h; omega
  · omega

theorem cap_of_lt (g : Geo) (b : Nat) (h : g.size b < g.M) : g.cap b = g.size b - 1 := by
  unfold Geo.cap; rw [if_neg (by omega)]

/-- the invariant, over the components: a `show` with the components after a step presents every clause with the record
    projections reduced, as `omega` needs them.  `pub`, `jumped` and `cb` are not among them: a position's element (`val`) and
    buffer (`bufOf`) are fixed when the position is reserved, so `publish`, `rzJump` and `cJump` only enable the consumer's
    steps and no clause depends on them. -/
structure InvC (g : Geo) (P : Nat) (rz : Bool) (rcs C L nb : Nat) (first bufOf val : Nat → Nat) (delivered : List Nat) :
    Prop where
  c_le_p : C ≤ P
  p_le_l : P ≤ L
  l_le : L ≤ max C (first (nb - 1)) + g.cap (nb - 1)
  /-- the queue never holds more than its maximum -/
  l_bound : L ≤ C + g.M
  size_le : g.size (nb - 1) ≤ g.M
  rzi : rz = true → P - rcs < g.M ∧ g.size (nb - 1) < g.M ∧ L ≤ P
  nb_pos : 1 ≤ nb
  first_le_p : first (nb - 1) ≤ P
  /-- an older buffer never holds more unconsumed positions than it has cells, the JUMP marker's cell included -/
  room : ∀ b, b + 1 < nb → first (b + 1) - max C (first b) ≤ g.size b - 1
  /-- every reserved, unconsumed position lives in the buffer whose range contains it -/
  home : ∀ p, C ≤ p → p < P → bufOf p < nb ∧ first (bufOf p) ≤ p ∧ (bufOf p + 1 < nb → p < first (bufOf p + 1))
  /-- everything handed over so far: the elements of positions 0 .. C-1, each once, in order -/
  dlv : delivered = (List.range C).map val

def Inv (g : Geo) (s : St) : Prop :=
  InvC g s.P s.rz s.rcs s.C s.L s.nb s.first s.bufOf s.val s.delivered

theorem inv_init (g : Geo) : Inv g { L := g.size 0 - 1 } := by
  have hp := g.pos 0
  have hl := g.le
  have hc : g.size 0 - 1 ≤ g.cap 0 := by
    unfold Geo.cap; split <;> omega
  show InvC g 0 false 0 0 (g.size 0 - 1) 1 (fun _ => 0) (fun _ => 0) (fun _ => 0) []
  refine ⟨Nat.le_refl _, Nat.zero_le _, ?_, by omega, hl, nofun, Nat.le_refl _, Nat.zero_le _, fun b hb => (by omega),
    fun p _ hp => absurd hp (Nat.not_lt_zero _), rfl⟩
  show g.size 0 - 1 ≤ max 0 0 + g.cap 0
  omega

theorem delivered_upd {val : Nat → Nat} {C P x : Nat} {delivered : List Nat} (h : delivered = (List.range C).map val)
    (hle : C ≤ P) : delivered = (List.range C).map (upd val P x) := by
  rw [h]
  refine List.map_congr_left fun a ha => (upd_other ?_).symm
  have := List.mem_range.mp ha
  omega

theorem inv_step (g : Geo) {s s' : St} (hi : Inv g s) (hs : Step g s s') : Inv g s' := by
  have ⟨c_le_p, p_le_l, l_le, l_bound, size_le, rzi, nb_pos, first_le_p, room, home, dlv⟩ := hi
  cases hs with
  | limit cs hr hl hcs hlt =>
    show InvC g s.P s.rz s.rcs s.C (cs + g.cap (s.nb - 1)) s.nb s.first s.bufOf s.val s.delivered
    have := g.cap_le (s.nb - 1)
    exact { hi with p_le_l := Nat.le_of_lt hlt, l_le := by omega, l_bound := by omega, rzi := fun h => nomatch hr.symm.trans h }
  | reserve x hr hlt =>
    show InvC g (s.P + 1) s.rz s.rcs s.C s.L s.nb s.first (upd s.bufOf s.P (s.nb - 1)) (upd s.val s.P x) s.delivered
    refine { hi with
      c_le_p := Nat.le_succ_of_le c_le_p
      p_le_l := hlt
      rzi := fun h => nomatch hr.symm.trans h
      first_le_p := Nat.le_succ_of_le first_le_p
      home := fun p hp1 hp2 => ?_
      dlv := delivered_upd dlv c_le_p }
    -- the new position lives in the producer buffer, the last one
    rw [upd_apply]
    split
    next e => exact e ▸ ⟨by omega, first_le_p, fun h => (by omega)⟩
    next e => exact home p hp1 (Nat.lt_of_le_of_ne (Nat.le_of_lt_succ hp2) e)
  | publish | rzJump | cJump => exact hi
  | rzStart cs hr hl hcs hfull hav hsz => exact { hi with rzi := fun _ => ⟨hav, hsz, hl⟩ }
  | rzBody x cs hr hrcs hcs =>
    show InvC g (s.P + 1) false s.rcs s.C (s.P + min (g.cap s.nb) (g.M - (s.P - cs))) (s.nb + 1) (upd s.first s.nb s.P)
      (upd s.bufOf s.P s.nb) (upd s.val s.P x) s.delivered
    obtain ⟨hav, hsz, hlp⟩ := rzi hr
    have hcap := g.cap_pos s.nb
    have hcapold := cap_of_lt g (s.nb - 1) hsz
    have hnn : s.nb + 1 - 1 = s.nb := rfl
    -- the new buffer starts at P; the older ones start where they did
    have fnew : upd s.first s.nb s.P (s.nb + 1 - 1) = s.P := upd_self ..
    have fold : ∀ b, b < s.nb → upd s.first s.nb s.P b = s.first b := fun b hb => upd_other (Nat.ne_of_lt hb)
    -- so a buffer's successor starts at P if it is the new one, and where it did otherwise
    have fsucc : ∀ b, b + 1 < s.nb + 1 → (b = s.nb - 1 ∧ upd s.first s.nb s.P (b + 1) = s.P) ∨
        (b + 1 < s.nb ∧ upd s.first s.nb s.P (b + 1) = s.first (b + 1)) := fun b hb => by
      by_cases e : b + 1 = s.nb
      · exact .inl ⟨Nat.eq_sub_of_add_eq e, e ▸ upd_self ..⟩
      · have h := Nat.lt_of_le_of_ne (Nat.le_of_lt_succ hb) e
        exact .inr ⟨h, fold _ h⟩
    refine {
      c_le_p := Nat.le_succ_of_le c_le_p
      p_le_l := by omega
      l_le := by rw [fnew, hnn]; omega
      l_bound := by omega
      size_le := (Nat.sub_add_cancel nb_pos).symm ▸ g.dblM _ hsz
      rzi := nofun
      nb_pos := Nat.le_add_left 1 _
      first_le_p := by rw [fnew]; exact Nat.le_succ _
      room := fun b hb => ?_
      home := fun p hp1 hp2 => ?_
      dlv := delivered_upd dlv c_le_p }
    · rw [fold b (Nat.lt_of_succ_lt_succ hb)]
      rcases fsucc b hb with ⟨rfl, e⟩ | ⟨h, e⟩ <;> rw [e]
      · -- the old producer buffer ends at P, and P ≤ L ≤ max C first + its capacity, which is its size - 1
        omega
      · exact room b h
    · simp only [upd_apply (f := s.bufOf)]
      split
      next e =>
        subst e
        exact ⟨Nat.lt_succ_self _, by rw [upd_self]; exact Nat.le_refl _, fun h => absurd h (Nat.lt_irrefl _)⟩
      next e =>
        have hp : p < s.P := Nat.lt_of_le_of_ne (Nat.le_of_lt_succ hp2) e
        have hm := home p hp1 hp
        rw [fold _ hm.1]
        refine ⟨Nat.lt_succ_of_lt hm.1, hm.2.1, fun _ => ?_⟩
        rcases fsucc (s.bufOf p) (Nat.succ_lt_succ hm.1) with ⟨_, e⟩ | ⟨h, e⟩ <;> rw [e]
        · exact hp
        · exact hm.2.2 h
  | cTake hlt hpub hbuf =>
    show InvC g s.P s.rz s.rcs (s.C + 1) s.L s.nb s.first s.bufOf s.val (s.delivered ++ [s.val s.C])
    exact { hi with
      c_le_p := hlt
      l_le := by omega
      l_bound := by omega
      room := fun b hb => by have := room b hb; omega
      home := fun p hp1 hp2 => home p (Nat.le_of_succ_le hp1) hp2
      dlv := by rw [List.range_succ, List.map_append, dlv]; rfl }

theorem reach_inv (g : Geo) {s : St} (h : Reach g s) : Inv g s := by
  induction h with
  | init => exact inv_init g
  | step _ hs ih => exact inv_step g ih hs

end OtterVerif.Conc.MpscConc
