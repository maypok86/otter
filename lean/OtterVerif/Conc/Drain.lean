/-
  Conc.Drain — the drain-status protocol of cache_impl.go as an interleaving transition system for an UNBOUNDED
  number of threads (counter-machine encoding: one natural-number counter per thread location).

  Shared words: `ds` (drainStatus: 0 idle, 1 required, 2 processingToIdle, 3 processingToRequired), `mu` (evictionMutex,
  0/1), `wb` (number of events in the write buffer).  One step = one sync/atomic operation, mutex operation or buffer
  push/pop of the code (skeletons: Gen.Skeleton, compared with Conc.DrainSkeleton on every run).

  Locations (code position → counter):
    writer  afterWriteTask/scheduleAfterWrite:  W0 before TryPush · W1 status load · Wc01 CAS idle→required · Wc23 CAS pToIdle→pToRequired
    scheduleDrainBuffers:  S0 first load · S1 TryLock · S2 second load · S2u unlock(after ≥ processing) · S3 store pToIdle · S4 executor
                           P50 / P51 = scheduler at its token CAS paired with its drainer at TryLock / at its token CAS (token 0)
                           S6 unlock (scheduler won the token) · S5f scheduler whose token CAS will fail (drainer owns the lock now)
    drainBuffers:          D0t TryLock (token already 1) · D1t token CAS that will fail → performCleanUp
    performCleanUp / CleanUp / SetMaximum / Hottest / Coldest:  PC0 waiting for the lock
    InvalidateAll:         IA0 waiting for the lock · IA1 popping the write buffer under the lock · IA2 unlock (its later per-key Invalidate calls are writers)
    GetMaximum / WeightedSize:  G0 waiting for the lock · G1 status load under the lock · G5 unlock without maintenance
    maintenance:           M0 store pToIdle · M1 drain loop · M2 final load · M3 final CAS · M4 store required · M5 unlock
    rescheduleCleanUpIfIncomplete:  M6 status load (default executor → scheduleDrainBuffers)
-/
namespace OtterVerif.Conc.Drain

structure St where
  ds : Nat := 0
  mu : Nat := 0
  wb : Nat := 0
  W0 : Nat := 0
  W1 : Nat := 0
  Wc01 : Nat := 0
  Wc23 : Nat := 0
  S0 : Nat := 0
  S1 : Nat := 0
  S2 : Nat := 0
  S2u : Nat := 0
  S3 : Nat := 0
  S4 : Nat := 0
  P50 : Nat := 0
  P51 : Nat := 0
  S6 : Nat := 0
  S5f : Nat := 0
  D0t : Nat := 0
  D1t : Nat := 0
  PC0 : Nat := 0
  G0 : Nat := 0
  G1 : Nat := 0
  G5 : Nat := 0
  IA0 : Nat := 0
  IA1 : Nat := 0
  IA2 : Nat := 0
  M0 : Nat := 0
  M1 : Nat := 0
  M2 : Nat := 0
  M3 : Nat := 0
  M4 : Nat := 0
  M5 : Nat := 0
  M6 : Nat := 0
  deriving Repr, DecidableEq

inductive Step : St → St → Prop
  -- writer
  | w_push (s : St) (h : s.W0 > 0) : Step s { s with W0 := s.W0 - 1, W1 := s.W1 + 1, wb := s.wb + 1 }
  | w_push_refused (s : St) (h : s.W0 > 0) : Step s { s with S0 := s.S0 + 1 }                 -- full buffer: scheduleDrainBuffers, retry
  | w_fallback (s : St) (h : s.W0 > 0) : Step s { s with W0 := s.W0 - 1, PC0 := s.PC0 + 1 }      -- 100 refusals: performCleanUp(own task)
  | w_load0 (s : St) (h : s.W1 > 0) (hd : s.ds = 0) : Step s { s with W1 := s.W1 - 1, Wc01 := s.Wc01 + 1 }
  | w_load1 (s : St) (h : s.W1 > 0) (hd : s.ds = 1) : Step s { s with W1 := s.W1 - 1, S0 := s.S0 + 1 }
  | w_load2 (s : St) (h : s.W1 > 0) (hd : s.ds = 2) : Step s { s with W1 := s.W1 - 1, Wc23 := s.Wc23 + 1 }
  | w_load3 (s : St) (h : s.W1 > 0) (hd : s.ds = 3) : Step s { s with W1 := s.W1 - 1 }
  | w_cas01_ok (s : St) (h : s.Wc01 > 0) (hd : s.ds = 0) : Step s { s with Wc01 := s.Wc01 - 1, S0 := s.S0 + 1, ds := 1 }
  | w_cas01_fail (s : St) (h : s.Wc01 > 0) (hd : s.ds ≠ 0) : Step s { s with Wc01 := s.Wc01 - 1, S0 := s.S0 + 1 }
  | w_cas23_ok (s : St) (h : s.Wc23 > 0) (hd : s.ds = 2) : Step s { s with Wc23 := s.Wc23 - 1, ds := 3 }
  | w_cas23_fail (s : St) (h : s.Wc23 > 0) (hd : s.ds ≠ 2) : Step s { s with Wc23 := s.Wc23 - 1, W1 := s.W1 + 1 }
  -- scheduleDrainBuffers
  | s_load_busy (s : St) (h : s.S0 > 0) (hd : s.ds ≥ 2) : Step s { s with S0 := s.S0 - 1 }
  | s_load_go (s : St) (h : s.S0 > 0) (hd : s.ds < 2) : Step s { s with S0 := s.S0 - 1, S1 := s.S1 + 1 }
  | s_trylock_ok (s : St) (h : s.S1 > 0) (hm : s.mu = 0) : Step s { s with S1 := s.S1 - 1, S2 := s.S2 + 1, mu := 1 }
  | s_trylock_fail (s : St) (h : s.S1 > 0) (hm : s.mu = 1) : Step s { s with S1 := s.S1 - 1 }
  | s_load2_busy (s : St) (h : s.S2 > 0) (hd : s.ds ≥ 2) : Step s { s with S2 := s.S2 - 1, S2u := s.S2u + 1 }
  | s_load2_go (s : St) (h : s.S2 > 0) (hd : s.ds < 2) : Step s { s with S2 := s.S2 - 1, S3 := s.S3 + 1 }
  | s_unlock_busy (s : St) (h : s.S2u > 0) : Step s { s with S2u := s.S2u - 1, mu := 0 }
  | s_store (s : St) (h : s.S3 > 0) : Step s { s with S3 := s.S3 - 1, S4 := s.S4 + 1, ds := 2 }
  | s_spawn (s : St) (h : s.S4 > 0) : Step s { s with S4 := s.S4 - 1, P50 := s.P50 + 1 }
  -- scheduler/drainer pair while the token is 0
  | p_drainer_trylock_fail (s : St) (h : s.P50 > 0) : Step s { s with P50 := s.P50 - 1, P51 := s.P51 + 1 }
  | p_sched_wins_0 (s : St) (h : s.P50 > 0) : Step s { s with P50 := s.P50 - 1, S6 := s.S6 + 1, D0t := s.D0t + 1 }
  | p_sched_wins_1 (s : St) (h : s.P51 > 0) : Step s { s with P51 := s.P51 - 1, S6 := s.S6 + 1, D1t := s.D1t + 1 }
  | p_drainer_wins (s : St) (h : s.P51 > 0) : Step s { s with P51 := s.P51 - 1, M0 := s.M0 + 1, S5f := s.S5f + 1 }
  | s_unlock (s : St) (h : s.S6 > 0) : Step s { s with S6 := s.S6 - 1, mu := 0 }
  | s_token_lost (s : St) (h : s.S5f > 0) : Step s { s with S5f := s.S5f - 1 }
  -- drainBuffers after the token was taken by the scheduler
  | d_trylock_ok (s : St) (h : s.D0t > 0) (hm : s.mu = 0) : Step s { s with D0t := s.D0t - 1, M0 := s.M0 + 1, mu := 1 }
  | d_trylock_fail (s : St) (h : s.D0t > 0) (hm : s.mu = 1) : Step s { s with D0t := s.D0t - 1, D1t := s.D1t + 1 }
  | d_token_lost (s : St) (h : s.D1t > 0) : Step s { s with D1t := s.D1t - 1, PC0 := s.PC0 + 1 }
  -- performCleanUp and the other callers that lock, maintain, unlock, reschedule
  | pc_lock (s : St) (h : s.PC0 > 0) (hm : s.mu = 0) : Step s { s with PC0 := s.PC0 - 1, M0 := s.M0 + 1, mu := 1 }
  -- GetMaximum / WeightedSize
  | g_lock (s : St) (h : s.G0 > 0) (hm : s.mu = 0) : Step s { s with G0 := s.G0 - 1, G1 := s.G1 + 1, mu := 1 }
  | g_load_required (s : St) (h : s.G1 > 0) (hd : s.ds = 1) : Step s { s with G1 := s.G1 - 1, M0 := s.M0 + 1 }
  | g_load_other (s : St) (h : s.G1 > 0) (hd : s.ds ≠ 1) : Step s { s with G1 := s.G1 - 1, G5 := s.G5 + 1 }
  | g_unlock (s : St) (h : s.G5 > 0) : Step s { s with G5 := s.G5 - 1, M6 := s.M6 + 1, mu := 0 }
  -- InvalidateAll: lock, pop and apply the buffered events directly (no status change), unlock, reschedule
  | ia_lock (s : St) (h : s.IA0 > 0) (hm : s.mu = 0) : Step s { s with IA0 := s.IA0 - 1, IA1 := s.IA1 + 1, mu := 1 }
  | ia_pop (s : St) (h : s.IA1 > 0) (hw : s.wb > 0) : Step s { s with wb := s.wb - 1 }
  | ia_done (s : St) (h : s.IA1 > 0) : Step s { s with IA1 := s.IA1 - 1, IA2 := s.IA2 + 1 }
  | ia_unlock (s : St) (h : s.IA2 > 0) : Step s { s with IA2 := s.IA2 - 1, M6 := s.M6 + 1, mu := 0 }
  -- maintenance
  | m_store (s : St) (h : s.M0 > 0) : Step s { s with M0 := s.M0 - 1, M1 := s.M1 + 1, ds := 2 }
  | m_pop (s : St) (h : s.M1 > 0) (hw : s.wb > 0) : Step s { s with wb := s.wb - 1 }
  | m_drained (s : St) (h : s.M1 > 0) (hw : s.wb = 0) : Step s { s with M1 := s.M1 - 1, M2 := s.M2 + 1 }
  | m_drain_bound (s : St) (h : s.M1 > 0) : Step s { s with M1 := s.M1 - 1, M2 := s.M2 + 1, ds := 3 }   -- maxWriteBufferSize+1 pops
  | m_load_idle (s : St) (h : s.M2 > 0) (hd : s.ds = 2) : Step s { s with M2 := s.M2 - 1, M3 := s.M3 + 1 }
  | m_load_marked (s : St) (h : s.M2 > 0) (hd : s.ds ≠ 2) : Step s { s with M2 := s.M2 - 1, M4 := s.M4 + 1 }
  | m_cas_ok (s : St) (h : s.M3 > 0) (hd : s.ds = 2) : Step s { s with M3 := s.M3 - 1, M5 := s.M5 + 1, ds := 0 }
  | m_cas_fail (s : St) (h : s.M3 > 0) (hd : s.ds ≠ 2) : Step s { s with M3 := s.M3 - 1, M4 := s.M4 + 1 }
  | m_store_required (s : St) (h : s.M4 > 0) : Step s { s with M4 := s.M4 - 1, M5 := s.M5 + 1, ds := 1 }
  | m_unlock (s : St) (h : s.M5 > 0) : Step s { s with M5 := s.M5 - 1, M6 := s.M6 + 1, mu := 0 }
  -- rescheduleCleanUpIfIncomplete (default executor)
  | r_load_required (s : St) (h : s.M6 > 0) (hd : s.ds = 1) : Step s { s with M6 := s.M6 - 1, S0 := s.S0 + 1 }
  | r_load_other (s : St) (h : s.M6 > 0) (hd : s.ds ≠ 1) : Step s { s with M6 := s.M6 - 1 }

inductive Reach (init : St) : St → Prop
  | init : Reach init init
  | step {s s' : St} : Reach init s → Step s s' → Reach init s'

/-- an initial configuration: any number of writers, readers/schedulers, CleanUp-like callers and
    GetMaximum-like callers, nobody inside the protocol, status idle, lock free, buffer empty -/
def Initial (s : St) : Prop :=
  s.ds = 0 ∧ s.mu = 0 ∧ s.wb = 0 ∧ s.W1 = 0 ∧ s.Wc01 = 0 ∧ s.Wc23 = 0 ∧ s.S1 = 0 ∧ s.S2 = 0 ∧ s.S2u = 0 ∧ s.S3 = 0 ∧
  s.S4 = 0 ∧ s.P50 = 0 ∧ s.P51 = 0 ∧ s.S6 = 0 ∧ s.S5f = 0 ∧ s.D0t = 0 ∧ s.D1t = 0 ∧ s.G1 = 0 ∧ s.G5 = 0 ∧ s.IA1 = 0 ∧ s.IA2 = 0 ∧ s.M0 = 0 ∧ s.M1 = 0 ∧
  s.M2 = 0 ∧ s.M3 = 0 ∧ s.M4 = 0 ∧ s.M5 = 0 ∧ s.M6 = 0

/-- every thread has returned -/
def Quiescent (s : St) : Prop :=
  s.W0 = 0 ∧ s.W1 = 0 ∧ s.Wc01 = 0 ∧ s.Wc23 = 0 ∧ s.S0 = 0 ∧ s.S1 = 0 ∧ s.S2 = 0 ∧ s.S2u = 0 ∧ s.S3 = 0 ∧ s.S4 = 0 ∧
  s.P50 = 0 ∧ s.P51 = 0 ∧ s.S6 = 0 ∧ s.S5f = 0 ∧ s.D0t = 0 ∧ s.D1t = 0 ∧ s.PC0 = 0 ∧ s.G0 = 0 ∧ s.G1 = 0 ∧ s.G5 = 0 ∧ s.IA0 = 0 ∧ s.IA1 = 0 ∧ s.IA2 = 0 ∧
  s.M0 = 0 ∧ s.M1 = 0 ∧ s.M2 = 0 ∧ s.M3 = 0 ∧ s.M4 = 0 ∧ s.M5 = 0 ∧ s.M6 = 0

/-- threads that will (still) execute the drain loop of a maintenance -/
def futureDrain (s : St) : Nat := s.S3 + s.S4 + s.P50 + s.P51 + s.D0t + s.D1t + s.PC0 + s.M0 + s.M1

def DInv (s : St) : Prop :=
  s.ds ≤ 3 ∧ s.mu ≤ 1 ∧
  -- (A) the lock is held iff exactly one thread is inside a critical section (the token hand-off moves ownership)
  s.mu = s.S2 + s.S2u + s.S3 + s.S4 + s.P50 + s.P51 + s.S6 + s.G1 + s.G5 + s.IA1 + s.IA2 + s.M0 + s.M1 + s.M2 + s.M3 + s.M4 + s.M5 ∧
  -- (H) what lock holders know about the status word
  (s.S2u + s.S4 + s.P50 + s.P51 + s.S6 + s.M1 + s.M2 + s.M3 ≥ 1 → s.ds ≥ 2) ∧
  (s.M4 ≥ 1 → s.ds = 3) ∧
  (s.S3 + s.M5 ≥ 1 → s.ds ≤ 1) ∧
  -- (B) a "processing" status always has a thread that will reset it
  (s.ds ≥ 2 → s.S4 + s.P50 + s.P51 + s.D0t + s.D1t + s.PC0 + s.M0 + s.M1 + s.M2 + s.M3 + s.M4 ≥ 1) ∧
  -- (I0) idle: every buffered event belongs to a writer that has not finished scheduling, or a drain is still to come
  (s.ds = 0 → s.wb ≤ s.W1 + s.Wc01 + s.Wc23 ∨ futureDrain s ≥ 1) ∧
  -- (I1) required: somebody will schedule or run a maintenance
  (s.ds = 1 → futureDrain s + s.W1 + s.Wc01 + s.Wc23 + s.S0 + s.S1 + s.S2 + s.G1 + s.G5 + s.IA1 + s.IA2 + s.M5 + s.M6 ≥ 1) ∧
  -- (I2) processing-to-idle: buffered events are owned by writers that will still mark the status, or a drain is still to come
  (s.ds = 2 → s.wb ≤ s.W1 + s.Wc23 ∨ futureDrain s ≥ 1) ∧
  -- (I3) processing-to-required: a drain is still to come, or the running maintenance will convert the mark to `required`
  (s.ds = 3 → futureDrain s + s.M2 + s.M3 + s.M4 ≥ 1)

theorem DInv.ds_le {s : St} (h : DInv s) : s.ds ≤ 3 := h.1

theorem DInv.mu_le {s : St} (h : DInv s) : s.mu ≤ 1 := h.2.1

/-- clause (A) -/
theorem DInv.lock {s : St} (h : DInv s) :
    s.mu = s.S2 + s.S2u + s.S3 + s.S4 + s.P50 + s.P51 + s.S6 + s.G1 + s.G5 + s.IA1 + s.IA2 + s.M0 + s.M1 + s.M2 + s.M3 + s.M4 + s.M5 :=
  h.2.2.1

/-- clause (I2) -/
theorem DInv.late_write_covered {s : St} (h : DInv s) (hd : s.ds = 2) : s.wb ≤ s.W1 + s.Wc23 ∨ futureDrain s ≥ 1 :=
  have ⟨_, _, _, _, _, _, _, _, _, i2, _⟩ := h
  i2 hd

/-- clause (I3) -/
theorem DInv.marked_covered {s : St} (h : DInv s) (hd : s.ds = 3) : futureDrain s + s.M2 + s.M3 + s.M4 ≥ 1 :=
  have ⟨_, _, _, _, _, _, _, _, _, _, i3⟩ := h
  i3 hd

theorem inv_init (s : St) (h : Initial s) : DInv s := by
  grind [Initial, DInv, futureDrain]

/-- By `grind` (and by `lia` further down) and not by `omega`: on sums this long `omega`'s time doubles with every level of `+`
    above a summand that a step changes, and it splits on every implication of `DInv` whether or not the step concerns it. -/
theorem inv_step (s s' : St) (hi : DInv s) (hs : Step s s') : DInv s' := by
  cases hs <;> grind [DInv, futureDrain]

theorem inv_reach (init s : St) (h0 : Initial init) (hr : Reach init s) : DInv s := by
  induction hr with
  | init => exact inv_init _ h0
  | step _ hs ih => exact inv_step _ _ ih hs

/-- C14, safety form of "maintenance is never stranded": in every reachable configuration in which all threads have
    returned, the status is idle and the write buffer is empty -/
theorem no_stranded (init s : St) (h0 : Initial init) (hr : Reach init s) (hq : Quiescent s) : s.ds = 0 ∧ s.wb = 0 := by
  have hi := inv_reach init s h0 hr
  unfold DInv futureDrain at hi
  unfold Quiescent at hq
  lia

/-- deadlock freedom: a configuration that is not quiescent has an enabled step (blocking lock acquisitions wait only for
    a holder, and every holder can step) -/
theorem progress (s : St) (hi : DInv s) (hq : ¬ Quiescent s) : ∃ s', Step s s' := by
  have hds : s.ds = 0 ∨ s.ds = 1 ∨ s.ds = 2 ∨ s.ds = 3 := by have := hi.ds_le; omega
  have hmu : s.mu = 0 ∨ s.mu = 1 := by have := hi.mu_le; omega
  have hA := hi.lock
  -- threads that never block
  by_cases h : s.W0 > 0; · exact ⟨_, Step.w_push s h⟩
  by_cases h : s.W1 > 0
  · rcases hds with hd | hd | hd | hd
    · exact ⟨_, Step.w_load0 s h hd⟩
    · exact ⟨_, Step.w_load1 s h hd⟩
    · exact ⟨_, Step.w_load2 s h hd⟩
    · exact ⟨_, Step.w_load3 s h hd⟩
  by_cases h : s.Wc01 > 0
  · by_cases hd : s.ds = 0
    · exact ⟨_, Step.w_cas01_ok s h hd⟩
    · exact ⟨_, Step.w_cas01_fail s h hd⟩
  by_cases h : s.Wc23 > 0
  · by_cases hd : s.ds = 2
    · exact ⟨_, Step.w_cas23_ok s h hd⟩
    · exact ⟨_, Step.w_cas23_fail s h hd⟩
  by_cases h : s.S0 > 0
  · by_cases hd : s.ds ≥ 2
    · exact ⟨_, Step.s_load_busy s h hd⟩
    · exact ⟨_, Step.s_load_go s h (Nat.lt_of_not_le hd)⟩
  by_cases h : s.S1 > 0
  · rcases hmu with hm | hm
    · exact ⟨_, Step.s_trylock_ok s h hm⟩
    · exact ⟨_, Step.s_trylock_fail s h hm⟩
  by_cases h : s.S2 > 0
  · by_cases hd : s.ds ≥ 2
    · exact ⟨_, Step.s_load2_busy s h hd⟩
    · exact ⟨_, Step.s_load2_go s h (Nat.lt_of_not_le hd)⟩
  by_cases h : s.S2u > 0; · exact ⟨_, Step.s_unlock_busy s h⟩
  by_cases h : s.S3 > 0; · exact ⟨_, Step.s_store s h⟩
  by_cases h : s.S4 > 0; · exact ⟨_, Step.s_spawn s h⟩
  by_cases h : s.P50 > 0; · exact ⟨_, Step.p_sched_wins_0 s h⟩
  by_cases h : s.P51 > 0; · exact ⟨_, Step.p_sched_wins_1 s h⟩
  by_cases h : s.S6 > 0; · exact ⟨_, Step.s_unlock s h⟩
  by_cases h : s.S5f > 0; · exact ⟨_, Step.s_token_lost s h⟩
  by_cases h : s.D0t > 0
  · rcases hmu with hm | hm
    · exact ⟨_, Step.d_trylock_ok s h hm⟩
    · exact ⟨_, Step.d_trylock_fail s h hm⟩
  by_cases h : s.D1t > 0; · exact ⟨_, Step.d_token_lost s h⟩
  by_cases h : s.G1 > 0
  · by_cases hd : s.ds = 1
    · exact ⟨_, Step.g_load_required s h hd⟩
    · exact ⟨_, Step.g_load_other s h hd⟩
  by_cases h : s.G5 > 0; · exact ⟨_, Step.g_unlock s h⟩
  by_cases h : s.IA1 > 0; · exact ⟨_, Step.ia_done s h⟩
  by_cases h : s.IA2 > 0; · exact ⟨_, Step.ia_unlock s h⟩
  by_cases h : s.M0 > 0; · exact ⟨_, Step.m_store s h⟩
  by_cases h : s.M1 > 0; · exact ⟨_, Step.m_drain_bound s h⟩
  by_cases h : s.M2 > 0
  · by_cases hd : s.ds = 2
    · exact ⟨_, Step.m_load_idle s h hd⟩
    · exact ⟨_, Step.m_load_marked s h hd⟩
  by_cases h : s.M3 > 0
  · by_cases hd : s.ds = 2
    · exact ⟨_, Step.m_cas_ok s h hd⟩
    · exact ⟨_, Step.m_cas_fail s h hd⟩
  by_cases h : s.M4 > 0; · exact ⟨_, Step.m_store_required s h⟩
  by_cases h : s.M5 > 0; · exact ⟨_, Step.m_unlock s h⟩
  by_cases h : s.M6 > 0
  · by_cases hd : s.ds = 1
    · exact ⟨_, Step.r_load_required s h hd⟩
    · exact ⟨_, Step.r_load_other s h hd⟩
  -- only threads waiting for the lock are left: the lock is free, because no holder is left (A)
  have hfree : s.mu = 0 := by lia
  by_cases h : s.PC0 > 0; · exact ⟨_, Step.pc_lock s h hfree⟩
  by_cases h : s.G0 > 0; · exact ⟨_, Step.g_lock s h hfree⟩
  by_cases h : s.IA0 > 0; · exact ⟨_, Step.ia_lock s h hfree⟩
  exfalso; apply hq; unfold Quiescent; lia

end OtterVerif.Conc.Drain
