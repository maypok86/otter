/-
  Conc.Bucket — interleaving model of ONE bucket chain of internal/hashmap/map.go: lock-free readers (Map.Get) against the
  writer that holds the root-bucket lock (Map.Compute), at the granularity of the individual atomic loads and stores.

  A chain is a growing array of slots (`w` slots per bucket, `len` buckets); slot s has a meta byte (`none` = empty, else
  the h2 byte of the key stored there) and a node pointer.  The writer's critical section is a sequence of single stores,
  in the order of the source ("first we update meta, then the node" / "first we update the hash, then the node"):

    insBegin / insEnd     insertion into an empty slot: Store meta (h2), then StorePointer node
    delBegin / delEnd     deletion: Store meta (empty), then StorePointer nil
    update                in-place replacement: one StorePointer
    append                a new bucket, already filled, published by one Store next
    retire                the table is replaced (resize, Clear): the chain is frozen, no writer touches it again

  A reader (any number of them, each with its own key) runs Map.Get step by step:

    start                 Load table (the chain must still be current at that instant)
    snap                  Load meta of bucket b: ONE atomic load of all w meta bytes; the marked slots are those whose byte
                          equals h2(key), in ascending order
    hit / miss            LoadPointer of the next marked slot: a node with the key ends the search, anything else
                          (nil, another key with the same h2) continues
    next / fin            Load next: go to the following bucket, or return "absent" at the end of the chain

  The abstraction `Abs m k` (what the chain maps k to) counts a slot only when BOTH its meta byte and its pointer are set for
  k, so an insertion takes effect at its pointer store, a deletion at its meta store, a replacement at its single store:
  `insEnd_effect` / `insBegin_silent` and `delBegin_effect` / `delEnd_silent` (restated for reachable states as
  Props.C02.c02_insert_atomic_point / c02_delete_atomic_point), `update_effect` and `append_effect` (stated here only).
  The ghost `seen r` collects every value `Abs` has had for the reader's key from its start on (it is updated after every
  step by `obs`, definitionally).  Theorem `read_linearizable`: whatever a reader returns is in `seen` — the key mapped to
  exactly that at some instant between the reader's first and last step.
-/
namespace OtterVerif.Conc.Bucket

structure Node where
  key : Nat
  id  : Nat
deriving DecidableEq, Repr

inductive Wr
  | idle
  | ins (s : Nat) (n : Node)
  | del (s : Nat)
deriving DecidableEq

inductive Rd
  | off
  | scan (k b : Nat)
  | probing (k b : Nat) (M : List Nat)
  | done (k : Nat) (res : Option Node)
deriving DecidableEq

/-- the key of a reader that is still searching -/
def Rd.key : Rd → Option Nat
  | .scan k _ => some k
  | .probing k _ _ => some k
  | _ => none

/-- the key of a reader that is searching or has returned -/
def Rd.keyAll : Rd → Option Nat
  | .scan k _ => some k
  | .probing k _ _ => some k
  | .done k _ => some k
  | .off => none

structure Mem where
  mt   : Nat → Option Nat := fun _ => none
  ptr  : Nat → Option Node := fun _ => none
  len  : Nat := 1
  live : Bool := true
  wr   : Wr := .idle
  rd   : Nat → Rd := fun _ => .off

def upd {α : Type} (f : Nat → α) (i : Nat) (v : α) : Nat → α := fun j => if j = i then v else f j
@[simp] theorem upd_self {α : Type} (f : Nat → α) (i : Nat) (v : α) : upd f i v i = v := by simp [upd]
theorem upd_other {α : Type} {f : Nat → α} {i j : Nat} {v : α} (h : j ≠ i) : upd f i v j = f j := by simp [upd, h]
theorem upd_apply {α : Type} (f : Nat → α) (i : Nat) (v : α) (j : Nat) : upd f i v j = if j = i then v else f j := rfl
theorem upd_eq_some {α : Type} {f : Nat → Option α} {i j : Nat} {x : Option α} {a : α} (h : upd f i x j = some a) :
    j = i ∧ x = some a ∨ j ≠ i ∧ f j = some a := by
  rw [upd_apply] at h
  split at h
  · exact .inl ⟨‹_›, h⟩
  · exact .inr ⟨‹_›, h⟩

structure St where
  m : Mem
  seen : Nat → Option Node → Prop

section
variable (w : Nat) (h2 : Nat → Nat)

/-- slot s currently maps key k to node n: meta byte and pointer both set for it -/
def Valid (m : Mem) (s k : Nat) (n : Node) : Prop :=
  m.mt s = some (h2 k) ∧ m.ptr s = some n ∧ n.key = k

/-- what the chain maps k to -/
def Abs (m : Mem) (k : Nat) : Option Node → Prop
  | some n => ∃ s, Valid h2 m s k n
  | none => ∀ s n, ¬ Valid h2 m s k n

/-- the slots of bucket b whose meta byte equals h2 k, ascending (one atomic load of the meta word) -/
def marks (m : Mem) (k b : Nat) : List Nat :=
  ((List.range w).filter (fun i => m.mt (b * w + i) = some (h2 k))).map (fun i => b * w + i)

/-- the writer's stores (the readers' records are untouched) -/
inductive WStep (m : Mem) : Mem → Prop
  | insBegin (k s : Nat) (n : Node) : m.live = true → m.wr = .idle → n.key = k → Abs h2 m k none → s < m.len * w →
      m.mt s = none →
      WStep m { m with mt := upd m.mt s (some (h2 k)), wr := .ins s n }
  | insEnd (s : Nat) (n : Node) : m.wr = .ins s n →
      WStep m { m with ptr := upd m.ptr s (some n), wr := .idle }
  | delBegin (s : Nat) (n : Node) : m.live = true → m.wr = .idle → m.ptr s = some n → m.mt s = some (h2 n.key) →
      WStep m { m with mt := upd m.mt s none, wr := .del s }
  | delEnd (s : Nat) : m.wr = .del s →
      WStep m { m with ptr := upd m.ptr s none, wr := .idle }
  | update (s : Nat) (n n' : Node) : m.live = true → m.wr = .idle → m.ptr s = some n → m.mt s = some (h2 n.key) →
      n'.key = n.key →
      WStep m { m with ptr := upd m.ptr s (some n') }
  | append (k : Nat) (n : Node) : m.live = true → m.wr = .idle → n.key = k → Abs h2 m k none →
      WStep m { m with mt := upd m.mt (m.len * w) (some (h2 k)), ptr := upd m.ptr (m.len * w) (some n),
                       len := m.len + 1 }
  | retire : m.wr = .idle → WStep m { m with live := false }

/-- one step of reader r: its new record -/
inductive RStep (m : Mem) : Nat → Rd → Prop
  | snap (r k b : Nat) : m.rd r = .scan k b → RStep m r (.probing k b (marks w h2 m k b))
  | hit (r k b s : Nat) (M : List Nat) (n : Node) : m.rd r = .probing k b (s :: M) → m.ptr s = some n → n.key = k →
      RStep m r (.done k (some n))
  | miss (r k b s : Nat) (M : List Nat) : m.rd r = .probing k b (s :: M) → (∀ n, m.ptr s = some n → n.key ≠ k) →
      RStep m r (.probing k b M)
  | next (r k b : Nat) : m.rd r = .probing k b [] → b + 1 < m.len → RStep m r (.scan k (b + 1))
  | fin (r k b : Nat) : m.rd r = .probing k b [] → ¬ (b + 1 < m.len) → RStep m r (.done k none)

/-- after every step each searching reader records what its key maps to now -/
def obs (m : Mem) (seen : Nat → Option Node → Prop) : Nat → Option Node → Prop :=
  fun r v => seen r v ∨ ∃ k, (m.rd r).key = some k ∧ Abs h2 m k v

inductive Step : St → St → Prop
  | wr {m m' : Mem} {seen} : WStep w h2 m m' → Step ⟨m, seen⟩ ⟨m', obs h2 m' seen⟩
  | rd {m : Mem} {seen} {r : Nat} {x : Rd} : RStep w h2 m r x →
      Step ⟨m, seen⟩ ⟨{ m with rd := upd m.rd r x }, obs h2 { m with rd := upd m.rd r x } seen⟩
  | start {m : Mem} {seen} (r k : Nat) : m.rd r = .off → m.live = true →
      Step ⟨m, seen⟩ ⟨{ m with rd := upd m.rd r (.scan k 0) },
                      obs h2 { m with rd := upd m.rd r (.scan k 0) } (upd seen r (fun _ => False))⟩

inductive Reach : St → Prop
  | init : Reach ⟨{}, fun _ _ => False⟩
  | step {s s' : St} : Reach s → Step w h2 s s' → Reach s'

inductive Run : St → St → Prop
  | refl (s : St) : Run s s
  | step {s s' s'' : St} : Run s s' → Step w h2 s' s'' → Run s s''

structure MInv (m : Mem) : Prop where
  len1 : 1 ≤ m.len
  /-- nothing is stored past the last bucket -/
  beyond : ∀ s, m.len * w ≤ s → m.mt s = none ∧ m.ptr s = none
  /-- a stored pointer has its meta byte, except between the two stores of a deletion -/
  coh : ∀ s n, m.ptr s = some n → m.mt s = some (h2 n.key) ∨ m.wr = .del s
  /-- between the two stores of an insertion: the byte is set, the pointer is not, and no slot holds the key -/
  insI : ∀ s n, m.wr = .ins s n → m.mt s = some (h2 n.key) ∧ m.ptr s = none ∧
            ∀ s' n', m.ptr s' = some n' → n'.key ≠ n.key
  /-- between the two stores of a deletion the byte is already empty -/
  delI : ∀ s, m.wr = .del s → m.mt s = none
  /-- at most one slot points to a node of a given key -/
  uniq : ∀ s s' n n', m.ptr s = some n → m.ptr s' = some n' → n.key = n'.key → s = s'
  /-- a retired chain has no store in flight -/
  frz : m.live = false → m.wr = .idle

/-- the reader's key has been seen absent, or it is mapped by a slot in `A` (the slots the reader has still to visit) -/
def Ahead (m : Mem) (seen : Option Node → Prop) (k : Nat) (A : Nat → Prop) : Prop :=
  seen none ∨ ∃ s n, Valid h2 m s k n ∧ A s

/-- What the record `x` of a reader guarantees about memory `m`, given the mappings `seen` the reader's key has had since
    its start: a marked slot that (now) holds a node of the key has been seen; the key has been seen absent, or it is mapped
    by a slot the reader has still to visit; THE RESULT a reader returned has been seen. -/
def RdInv (m : Mem) (seen : Option Node → Prop) : Rd → Prop
  | .off => True
  | .scan k b => Ahead h2 m seen k (b * w ≤ ·)
  | .probing k b M => (∀ s, s ∈ M → ∀ n, m.ptr s = some n → n.key = k → seen (some n)) ∧
      Ahead h2 m seen k fun s => (b + 1) * w ≤ s ∨ s ∈ M
  | .done _ v => seen v

/-- `m'` differs from `m` in slot `s0` only, and before and after that slot maps only keys that satisfy `P` -/
structure Store (m m' : Mem) (s0 : Nat) (P : Nat → Prop) : Prop where
  frame : ∀ s, s ≠ s0 → m'.mt s = m.mt s ∧ m'.ptr s = m.ptr s
  before : ∀ k n, Valid h2 m s0 k n → P k
  after : ∀ k n, Valid h2 m' s0 k n → P k

variable {w h2}

theorem MInv.mt_of_ptr {m : Mem} (hi : MInv w h2 m) (hw : m.wr = .idle) {s : Nat} {n : Node} (hp : m.ptr s = some n) :
    m.mt s = some (h2 n.key) :=
  (hi.coh s n hp).resolve_right fun hd => nomatch hw.symm.trans hd

theorem MInv.no_ptr {m : Mem} (hi : MInv w h2 m) (hw : m.wr = .idle) {k : Nat} (ha : Abs h2 m k none) :
    ∀ s' n', m.ptr s' = some n' → n'.key ≠ k :=
  fun s' n' hp hk => ha s' n' ⟨hk ▸ hi.mt_of_ptr hw hp, hp, hk⟩

theorem MInv.ptr_none {m : Mem} (hi : MInv w h2 m) (hw : m.wr = .idle) {s : Nat} (hm : m.mt s = none) : m.ptr s = none := by
  cases hp : m.ptr s with
  | none => rfl
  | some n => cases hm.symm.trans (hi.mt_of_ptr hw hp)

theorem beyond_upd {α : Type} {f : Nat → Option α} {L s0 : Nat} {x : Option α} (hb : ∀ s, L ≤ s → f s = none)
    (h0 : s0 < L ∨ x = none) (s : Nat) (hs : L ≤ s) : upd f s0 x s = none := by
  rw [upd_apply]
  split
  · exact h0.resolve_left (by omega)
  · exact hb s hs

theorem MInv.beyond_mt {m : Mem} (hi : MInv w h2 m) {s0 : Nat} {x : Option Nat} (h0 : s0 < m.len * w ∨ x = none) (s : Nat)
    (hs : m.len * w ≤ s) : upd m.mt s0 x s = none ∧ m.ptr s = none :=
  ⟨beyond_upd (fun s h => (hi.beyond s h).1) h0 s hs, (hi.beyond s hs).2⟩

theorem uniq_upd {ptr : Nat → Option Node} (hu : ∀ s s' n n', ptr s = some n → ptr s' = some n' → n.key = n'.key → s = s')
    (s0 : Nat) (x : Option Node) (hx : ∀ s n, s ≠ s0 → ptr s = some n → ∀ n0, x = some n0 → n.key ≠ n0.key) :
    ∀ s s' n n', upd ptr s0 x s = some n → upd ptr s0 x s' = some n' → n.key = n'.key → s = s' := by
  intro s s' n n' h1 h2 hk
  rcases upd_eq_some h1 with ⟨e1, x1⟩ | ⟨e1, p1⟩ <;> rcases upd_eq_some h2 with ⟨e2, x2⟩ | ⟨e2, p2⟩
  · exact e1.trans e2.symm
  · exact absurd hk.symm (hx s' n' e2 p2 n x1)
  · exact absurd hk (hx s n e1 p1 n' x2)
  · exact hu s s' n n' p1 p2 hk

theorem MInv.mt_lt {m : Mem} (hi : MInv w h2 m) {s x : Nat} (h : m.mt s = some x) : s < m.len * w :=
  Nat.lt_of_not_le fun hle => nomatch (hi.beyond s hle).1.symm.trans h

/-- A pointer store that leaves the writer idle keeps the invariant, provided a node it stores finds its meta byte set and
    its key in no other slot: the second store of an insertion or deletion, and an in-place replacement. -/
theorem MInv.store_ptr {m : Mem} (hi : MInv w h2 m) {s : Nat} {x : Option Node} (hd : ∀ s', m.wr = .del s' → s' = s)
    (hx : ∀ n, x = some n → m.mt s = some (h2 n.key) ∧ ∀ s' n', s' ≠ s → m.ptr s' = some n' → n'.key ≠ n.key) :
    MInv w h2 { m with ptr := upd m.ptr s x, wr := .idle } :=
  have h0 : s < m.len * w ∨ x = none := match x, hx with
    | none, _ => .inr rfl
    | some n, hx => .inl (hi.mt_lt (hx n rfl).1)
  { hi with
    beyond := fun s' hs' => ⟨(hi.beyond s' hs').1, beyond_upd (fun s h => (hi.beyond s h).2) h0 s' hs'⟩
    coh := fun s' n' hp' => .inl <| by
      rcases upd_eq_some hp' with ⟨rfl, e⟩ | ⟨hne, hp⟩
      · exact (hx n' e).1
      · exact (hi.coh s' n' hp).resolve_right fun h => hne (hd s' h)
    insI := nofun
    delI := nofun
    uniq := uniq_upd hi.uniq s x fun s' n' hne hp n0 e => (hx n0 e).2 s' n' hne hp
    frz := fun _ => rfl }

theorem wstep_minv (hw : 0 < w) {m m' : Mem} (hi : MInv w h2 m) (h : WStep w h2 m m') : MInv w h2 m' := by
  cases h with
  | insBegin k s n hl hwr hk ha hs hm =>
    have hp := hi.ptr_none hwr hm
    exact { hi with
      beyond := hi.beyond_mt (.inl hs)
      coh := fun s' n' hp' =>
        have hne : s' ≠ s := fun e => nomatch (e ▸ hp').symm.trans hp
        .inl ((upd_other hne).trans (hi.mt_of_ptr hwr hp'))
      insI := by
        rintro _ _ ⟨⟩
        exact ⟨(upd_self ..).trans (by rw [hk]), hp, fun s' n' hp' => hk ▸ hi.no_ptr hwr ha s' n' hp'⟩
      delI := nofun
      frz := fun h => nomatch hl.symm.trans h }
  | insEnd s n hwr =>
    obtain ⟨i1, _, i3⟩ := hi.insI s n hwr
    exact hi.store_ptr (fun _ h => nomatch hwr.symm.trans h) fun _ e => by
      cases e
      exact ⟨i1, fun s' n' _ => i3 s' n'⟩
  | delBegin s n hl hwr hp hm =>
    exact { hi with
      beyond := hi.beyond_mt (.inr rfl)
      coh := fun s' n' hp' =>
        if e : s' = s then .inr (e ▸ rfl) else .inl ((upd_other e).trans (hi.mt_of_ptr hwr hp'))
      insI := nofun
      delI := by rintro _ ⟨⟩; exact upd_self ..
      frz := fun h => nomatch hl.symm.trans h }
  | delEnd s hwr => exact hi.store_ptr (fun _ h => (Wr.del.inj (hwr.symm.trans h)).symm) nofun
  | update s n n' hl hwr hp hm hk =>
    -- (`hwr ▸`: the writer was idle already, so `{ m with ptr := _ }` is `{ m with ptr := _, wr := .idle }`)
    refine hwr ▸ hi.store_ptr (s := s) (x := some n') (fun _ h => nomatch hwr.symm.trans h) fun _ e => ?_
    cases e
    -- another slot with the new node's key would have held the old node's key
    exact ⟨hk ▸ hm, fun s' n'' hne hp' hkk => hne (hi.uniq s' s n'' n hp' hp (hkk.trans hk))⟩
  | append k n hl hwr hk ha =>
    have far : ∀ s', (m.len + 1) * w ≤ s' → m.len * w ≤ s' ∧ s' ≠ m.len * w := fun s' hs' => by
      rw [Nat.add_mul, Nat.one_mul] at hs'; omega
    -- the new bucket with its byte set and no pointer yet keeps the invariant; then the pointer is stored
    have h1 : MInv w h2 { m with mt := upd m.mt (m.len * w) (some (h2 k)), len := m.len + 1 } := { hi with
      len1 := Nat.le_succ_of_le hi.len1
      beyond := fun s' hs' =>
        have ⟨hle, hne⟩ := far s' hs'
        ⟨(upd_other hne).trans (hi.beyond s' hle).1, (hi.beyond s' hle).2⟩
      coh := fun s' n' hp' =>
        have hne : s' ≠ m.len * w := fun e => nomatch (e ▸ hp').symm.trans (hi.beyond _ (Nat.le_refl _)).2
        .inl ((upd_other hne).trans (hi.mt_of_ptr hwr hp'))
      insI := fun _ _ h => nomatch hwr.symm.trans h
      delI := fun _ h => nomatch hwr.symm.trans h }
    refine hwr ▸ h1.store_ptr (x := some n) (fun _ h => nomatch hwr.symm.trans h) fun _ e => ?_
    cases e
    exact ⟨(upd_self ..).trans (by rw [hk]), fun s' n' _ hp' => hk ▸ hi.no_ptr hwr ha s' n' hp'⟩
  | retire hwr => exact { hi with frz := fun _ => hwr }

theorem abs_congr {m m' : Mem} {k : Nat} (h : ∀ s n, Valid h2 m' s k n ↔ Valid h2 m s k n) (v : Option Node) :
    Abs h2 m' k v ↔ Abs h2 m k v := by
  cases v with
  | none => exact ⟨fun ha s n hv => ha s n ((h s n).mpr hv), fun ha s n hv => ha s n ((h s n).mp hv)⟩
  | some n => exact ⟨fun ⟨s, hv⟩ => ⟨s, (h s n).mp hv⟩, fun ⟨s, hv⟩ => ⟨s, (h s n).mpr hv⟩⟩

theorem Store.abs {m m' : Mem} {s0 k : Nat} {P : Nat → Prop} (v : Option Node) (st : Store h2 m m' s0 P) (hk : ¬ P k) :
    Abs h2 m' k v ↔ Abs h2 m k v := by
  refine abs_congr (fun s n => ?_) v
  by_cases e : s = s0
  · subst e; exact ⟨fun hv => absurd (st.after k n hv) hk, fun hv => absurd (st.before k n hv) hk⟩
  · unfold Valid; rw [(st.frame s e).1, (st.frame s e).2]

/-- a meta store: what the slot maps, before and after, is at most the key of the pointer that stays in it -/
theorem Store.of_mt {m : Mem} {s : Nat} {x : Option Nat} {wr' : Wr} {P : Nat → Prop} (hp : ∀ n, m.ptr s = some n → P n.key) :
    Store h2 m { m with mt := upd m.mt s x, wr := wr' } s P :=
  ⟨fun _ e => ⟨upd_other e, rfl⟩, fun _ _ hv => hv.2.2 ▸ hp _ hv.2.1, fun _ _ hv => hv.2.2 ▸ hp _ hv.2.1⟩

/-- a pointer store: the slot maps at most the key of the old pointer (if its meta byte is set) and that of the new one -/
theorem Store.of_ptr {m : Mem} {s : Nat} {x : Option Node} {wr' : Wr} {P : Nat → Prop}
    (hb : ∀ n, m.ptr s = some n → m.mt s = some (h2 n.key) → P n.key) (ha : ∀ n, x = some n → P n.key) :
    Store h2 m { m with ptr := upd m.ptr s x, wr := wr' } s P :=
  ⟨fun _ e => ⟨rfl, upd_other e⟩, fun _ _ hv => hv.2.2 ▸ hb _ hv.2.1 (hv.2.2 ▸ hv.1),
    fun _ _ hv => hv.2.2 ▸ ha _ ((upd_self ..).symm.trans hv.2.1)⟩

theorem wstep_slot {m m' : Mem} (hi : MInv w h2 m) (h : WStep w h2 m m') : ∃ s0 k0, Store h2 m m' s0 (· = k0) := by
  have past : ∀ {k n}, ¬ Valid h2 m (m.len * w) k n := fun hv => nomatch hv.1.symm.trans (hi.beyond _ (Nat.le_refl _)).1
  cases h with
  | insBegin k s n hl hwr hk ha hs hm => exact ⟨s, k, .of_mt fun _ hp => nomatch hp.symm.trans (hi.ptr_none hwr hm)⟩
  | insEnd s n hwr =>
    exact ⟨s, n.key, .of_ptr (fun n' hp' => nomatch hp'.symm.trans (hi.insI s n hwr).2.1) fun _ e => by cases e; rfl⟩
  | delBegin s n hl hwr hp hm => exact ⟨s, n.key, .of_mt fun n' hp' => by cases hp.symm.trans hp'; rfl⟩
  | delEnd s hwr => exact ⟨s, 0, .of_ptr (fun _ _ hm => nomatch hm.symm.trans (hi.delI s hwr)) nofun⟩
  | update s n n' hl hwr hp hm hk =>
    exact ⟨s, n.key, .of_ptr (fun n0 hp0 _ => by cases hp.symm.trans hp0; rfl) fun _ e => by cases e; exact hk⟩
  | append k n hl hwr hk =>
    exact ⟨m.len * w, k, {
      frame := fun s' e => ⟨upd_other e, upd_other e⟩
      before := fun _ _ hv => absurd hv past
      after := fun _ _ hv => by cases (upd_self ..).symm.trans hv.2.1; exact hv.2.2.symm.trans hk }⟩
  | retire =>
    exact ⟨m.len * w, 0, {
      frame := fun _ _ => ⟨rfl, rfl⟩
      before := fun _ _ hv => absurd hv past
      after := fun _ _ hv => absurd hv past }⟩

theorem valid_step {m m' : Mem} (hi : MInv w h2 m) (h : WStep w h2 m m') {s k : Nat} {n : Node}
    (hv : Valid h2 m s k n) : (∃ n', Valid h2 m' s k n') ∨ Abs h2 m' k none := by
  obtain ⟨s0, _, st⟩ := wstep_slot hi h
  by_cases e : s = s0
  · subst e
    refine Classical.or_iff_not_imp_left.mpr fun hn s' n' hv' => hn ?_
    -- another slot mapping k after the store mapped it before: two slots with the key
    by_cases e : s' = s
    · exact ⟨n', e ▸ hv'⟩
    · rw [Valid, (st.frame s' e).1, (st.frame s' e).2] at hv'
      exact absurd (hi.uniq _ _ _ _ hv'.2.1 hv.2.1 (hv'.2.2.trans hv.2.2.symm)) e
  · exact .inl ⟨n, by rw [Valid, (st.frame s e).1, (st.frame s e).2]; exact hv⟩

/-- only the first store of a deletion leaves the writer in state `del`, and it writes no pointer -/
theorem wstep_del {m m' : Mem} (h : WStep w h2 m m') {s : Nat} (hd : m'.wr = .del s) : m'.ptr = m.ptr := by
  cases h with
  | delBegin | retire => rfl
  | insBegin | insEnd | delEnd => cases hd
  | update _ _ _ _ hwr | append _ _ _ hwr => cases hwr.symm.trans hd

theorem ptr_step {m m' : Mem} (hi' : MInv w h2 m') (h : WStep w h2 m m') {s : Nat} {n : Node}
    (hp : m'.ptr s = some n) : m.ptr s = some n ∨ Abs h2 m' n.key (some n) := by
  rcases hi'.coh s n hp with hm | hd
  · exact .inr ⟨s, hm, hp, rfl⟩
  · exact .inl (wstep_del h hd ▸ hp)

theorem Ahead.mono {m : Mem} {seen seen' : Option Node → Prop} {k : Nat} {A A' : Nat → Prop} (hs : seen none → seen' none)
    (hA : ∀ s n, Valid h2 m s k n → A s → A' s) : Ahead h2 m seen k A → Ahead h2 m seen' k A' :=
  Or.imp hs fun ⟨s, n, hv, ha⟩ => ⟨s, n, hv, hA s n hv ha⟩

/-- a slot ahead of the reader that maps its key still does after a store, or the key is absent now, which the reader observes -/
theorem Ahead.wstep {m m' : Mem} (hi : MInv w h2 m) (h : WStep w h2 m m') {seen : Option Node → Prop} {k : Nat}
    {A : Nat → Prop} {key : Option Nat} (hk : key = some k) :
    Ahead h2 m seen k A → Ahead h2 m' (fun v => seen v ∨ ∃ k, key = some k ∧ Abs h2 m' k v) k A := by
  rintro (h1 | ⟨s, n, hv, ha⟩)
  · exact .inl (.inl h1)
  · exact (valid_step hi h hv).elim (fun ⟨n', hv'⟩ => .inr ⟨s, n', hv', ha⟩) fun h0 => .inl (.inr ⟨k, hk, h0⟩)

theorem RdInv.mono {m : Mem} {seen seen' : Option Node → Prop} (h : ∀ v, seen v → seen' v) {x : Rd}
    (hx : RdInv w h2 m seen x) : RdInv w h2 m seen' x := by
  cases x with
  | off => trivial
  | scan k b => exact Ahead.mono (h _) (fun _ _ _ => id) hx
  | probing k b M => exact ⟨fun s hs n hp hk => h _ (hx.1 s hs n hp hk), Ahead.mono (h _) (fun _ _ _ => id) hx.2⟩
  | done k v => exact h _ hx

/-- a store keeps a reader's record good once the reader has observed the mapping after the store -/
theorem RdInv.wstep {m m' : Mem} (hi : MInv w h2 m) (hi' : MInv w h2 m') (h : WStep w h2 m m') {seen : Option Node → Prop}
    {x : Rd} (hx : RdInv w h2 m seen x) : RdInv w h2 m' (fun v => seen v ∨ ∃ k, x.key = some k ∧ Abs h2 m' k v) x := by
  cases x with
  | off => trivial
  | done k v => exact .inl hx
  | scan k b => exact Ahead.wstep hi h rfl hx
  | probing k b M =>
    refine ⟨fun s hs n hp hk => ?_, Ahead.wstep hi h rfl hx.2⟩
    -- the node in a marked slot was there before the store (and seen then), or it is what the key maps to now
    rcases ptr_step hi' h hp with hp' | ha
    · exact .inl (hx.1 s hs n hp' hk)
    · exact .inr ⟨k, rfl, hk ▸ ha⟩

theorem mem_marks_iff {m : Mem} {k b s : Nat} :
    s ∈ marks w h2 m k b ↔ (b * w ≤ s ∧ s < (b + 1) * w) ∧ m.mt s = some (h2 k) := by
  simp only [marks, List.mem_map, List.mem_filter, List.mem_range, decide_eq_true_eq, Nat.add_mul, Nat.one_mul]
  constructor
  · rintro ⟨i, ⟨hi, hm⟩, rfl⟩
    exact ⟨by omega, hm⟩
  · rintro ⟨hb, hm⟩
    have e : b * w + (s - b * w) = s := by omega
    exact ⟨s - b * w, ⟨by omega, by rwa [e]⟩, e⟩

theorem wstep_rd {m m' : Mem} (h : WStep w h2 m m') : m'.rd = m.rd := by
  cases h <;> rfl

/-- a step of the reader keeps its record good once it has observed the mapping of its key at the step -/
theorem RdInv.rstep {m : Mem} {seen : Option Node → Prop} {r : Nat} {x : Rd} (hi : MInv w h2 m)
    (hx : RdInv w h2 m seen (m.rd r)) (h : RStep w h2 m r x) (hc : ∀ k v, x.key = some k → Abs h2 m k v → seen v) :
    RdInv w h2 m seen x := by
  cases h with
  | snap k b h0 =>
    rw [h0] at hx
    constructor
    · -- a marked slot that holds a node of the key: that node is what the key maps to now
      exact fun s hs n hp hk => hc k _ rfl ⟨s, (mem_marks_iff.mp hs).2, hp, hk⟩
    · -- the slot ahead was marked at this very instant, unless it lies in a later bucket
      refine Ahead.mono id (fun s n hv hb => ?_) hx
      exact if hlt : s < (b + 1) * w then .inr (mem_marks_iff.mpr ⟨⟨hb, hlt⟩, hv.1⟩) else .inl (Nat.le_of_not_lt hlt)
  | hit k b s M n h0 hp hk =>
    rw [h0] at hx
    exact hx.1 s (List.mem_cons_self ..) n hp hk
  | miss k b s M h0 hmiss =>
    rw [h0] at hx
    constructor
    · exact fun s' hs' => hx.1 s' (List.mem_cons_of_mem _ hs')
    · -- the slot ahead is not the one just probed, which holds no node of the key
      refine Ahead.mono id (fun s' n hv hb => hb.imp_right fun hm => ?_) hx.2
      exact (List.mem_cons.mp hm).resolve_left fun e => hmiss n (e ▸ hv.2.1) hv.2.2
  | next k b h0 hlt =>
    rw [h0] at hx
    exact Ahead.mono id (fun _ _ _ hb => hb.resolve_right nofun) hx.2
  | fin k b h0 hlt =>
    rw [h0] at hx
    -- a slot ahead would lie in a bucket past the last one
    refine Or.resolve_right hx.2 fun ⟨s, n, hv, hb⟩ => hlt ?_
    exact Nat.lt_of_mul_lt_mul_right (a := w) (Nat.lt_of_le_of_lt (hb.resolve_right nofun) (hi.mt_lt hv.1))

theorem RdInv.of_rd {m : Mem} {rd' : Nat → Rd} {seen : Option Node → Prop} {x : Rd} (hx : RdInv w h2 m seen x) :
    RdInv w h2 { m with rd := rd' } seen x := by
  cases x <;> exact hx

theorem RdInv.set_rd {m : Mem} {seen seen' : Nat → Option Node → Prop} (hr : ∀ r, RdInv w h2 m (seen r) (m.rd r))
    {r0 : Nat} {x : Rd} (hs : ∀ r, r ≠ r0 → ∀ v, seen r v → seen' r v)
    (hx : RdInv w h2 m (fun v => seen' r0 v ∨ ∃ k, x.key = some k ∧ Abs h2 m k v) x) (r : Nat) :
    RdInv w h2 { m with rd := upd m.rd r0 x } (obs h2 { m with rd := upd m.rd r0 x } seen' r) (upd m.rd r0 x r) := by
  unfold obs
  by_cases e : r = r0
  · subst e; simp only [upd_self]; exact hx.of_rd
  · rw [upd_other e]; exact ((hr r).mono fun v h => .inl (hs r e v h)).of_rd

theorem minv_rd {m : Mem} (hi : MInv w h2 m) {rd' : Nat → Rd} : MInv w h2 { m with rd := rd' } := { hi with }

theorem reach_inv (hw : 0 < w) {s : St} (h : Reach w h2 s) : MInv w h2 s.m ∧ ∀ r, RdInv w h2 s.m (s.seen r) (s.m.rd r) := by
  induction h with
  | init => exact ⟨⟨Nat.le_refl _, fun _ _ => ⟨rfl, rfl⟩, nofun, nofun, nofun, nofun, fun _ => rfl⟩, fun _ => trivial⟩
  | step _ hst ih =>
    obtain ⟨hi, hr⟩ := ih
    cases hst with
    | @wr m m' seen hws =>
      have hi' := wstep_minv hw hi hws
      refine ⟨hi', fun r => ?_⟩
      show RdInv w h2 m' (fun v => seen r v ∨ ∃ k, (m'.rd r).key = some k ∧ Abs h2 m' k v) (m'.rd r)
      rw [wstep_rd hws]
      exact (hr r).wstep hi hi' hws
    | @rd m seen r x hrs =>
      refine ⟨minv_rd hi, RdInv.set_rd hr (fun _ _ _ => id) ?_⟩
      exact ((hr r).mono fun _ => .inl).rstep hi hrs fun k v hk ha => .inr ⟨k, hk, ha⟩
    | @start m seen r k h0 hl =>
      refine ⟨minv_rd hi, RdInv.set_rd hr (fun r' e v hs => (upd_other e).symm ▸ hs) ?_⟩
      -- the key is absent right now, or some slot maps it (and every slot is still ahead)
      exact Classical.or_iff_not_imp_right.mpr fun hn => .inr ⟨k, rfl, fun s n hv => hn ⟨s, n, hv, by omega⟩⟩

variable (w h2)

theorem obs_mono (m : Mem) (seen : Nat → Option Node → Prop) {r : Nat} {v : Option Node} (h : seen r v) :
    obs h2 m seen r v := Or.inl h

theorem key_keyAll {x : Rd} {k : Nat} (h : x.key = some k) : x.keyAll = some k := by
  cases x <;> first | exact h | cases h

theorem step_keyAll {s s' : St} (h : Step w h2 s s') {r k : Nat} (hk : (s.m.rd r).keyAll = some k) :
    (s'.m.rd r).keyAll = some k := by
  have set : ∀ {m : Mem} {r0 : Nat} {x : Rd}, (m.rd r).keyAll = some k → (r = r0 → x.keyAll = (m.rd r0).keyAll) →
      (upd m.rd r0 x r).keyAll = some k := fun {m r0 x} hk hx => by
    by_cases e : r = r0
    · subst e; rw [upd_self, hx rfl]; exact hk
    · rw [upd_other e]; exact hk
  cases h with
  | wr hws => rw [wstep_rd hws]; exact hk
  | rd hrs => exact set hk fun _ => by cases hrs <;> simp only [*, Rd.keyAll]
  | start r0 k0 h0 hl => exact set hk fun e => by subst e; rw [h0] at hk; cases hk

/-- every step records through `obs`: a recorded value was recorded before the step (a `start` forgets), or is the mapping now -/
theorem step_seen {s s' : St} (h : Step w h2 s s') {r : Nat} {v : Option Node} (hs : s'.seen r v) :
    s.seen r v ∨ ∃ k, (s'.m.rd r).key = some k ∧ Abs h2 s'.m k v := by
  cases h with
  | wr hws => exact hs
  | rd hrs => exact hs
  | start r0 k0 h0 hl =>
    refine hs.imp_left fun h1 => ?_
    by_cases hre : r = r0
    · subst hre; rw [upd_self] at h1; cases h1
    · rwa [upd_other hre] at h1

/-- the ghost is what it says: every recorded value was the mapping of the key the reader's record carries now, in a state of
    the reader's own search -/
theorem seen_key {s : St} (h : Reach w h2 s) {r : Nat} {v : Option Node} (hs : s.seen r v) :
    ∃ s0 k, (s.m.rd r).keyAll = some k ∧ Reach w h2 s0 ∧ Run w h2 s0 s ∧ (s0.m.rd r).key = some k ∧ Abs h2 s0.m k v := by
  induction h with
  | init => cases hs
  | @step s1 s2 hr hst ih =>
    rcases step_seen w h2 hst hs with h1 | ⟨k, hk, ha⟩
    · obtain ⟨s0, k, hk, a, b, c⟩ := ih h1
      exact ⟨s0, k, step_keyAll w h2 hst hk, a, Run.step b hst, c⟩
    · exact ⟨s2, k, key_keyAll hk, Reach.step hr hst, Run.refl _, hk, ha⟩

theorem seen_sound {s : St} (h : Reach w h2 s) {r : Nat} {v : Option Node} (hs : s.seen r v) :
    ∃ s0 k, Reach w h2 s0 ∧ Run w h2 s0 s ∧ (s0.m.rd r).key = some k ∧ Abs h2 s0.m k v :=
  have ⟨s0, k, _, h0⟩ := seen_key w h2 h hs
  ⟨s0, k, h0⟩

theorem searching_of_key {m : Mem} {r k : Nat} (h : (m.rd r).key = some k) :
    (∃ b, m.rd r = .scan k b) ∨ (∃ b M, m.rd r = .probing k b M) := by
  generalize m.rd r = x at h ⊢
  cases x with
  | scan k' b => cases h; exact .inl ⟨b, rfl⟩
  | probing k' b M => cases h; exact .inr ⟨b, M, rfl⟩
  | off | done => cases h

/-- the first store of an insertion (the meta byte) changes no key's mapping: readers that see the byte find a nil pointer -/
theorem insBegin_silent {m : Mem} (hi : MInv w h2 m) {k s : Nat} {n : Node} (hwr : m.wr = .idle) (hm : m.mt s = none)
    (k' : Nat) (v : Option Node) :
    Abs h2 { m with mt := upd m.mt s (some (h2 k)), wr := .ins s n } k' v ↔ Abs h2 m k' v :=
  Store.abs v (P := fun _ => False) (.of_mt fun _ hp => nomatch hp.symm.trans (hi.ptr_none hwr hm)) id

/-- the second store of an insertion is its atomic point: the key goes from absent to the new node -/
theorem insEnd_effect {m : Mem} (hi : MInv w h2 m) {s : Nat} {n : Node} (hwr : m.wr = .ins s n) :
    Abs h2 m n.key none ∧ Abs h2 { m with ptr := upd m.ptr s (some n), wr := .idle } n.key (some n) :=
  have ⟨i1, _, i3⟩ := hi.insI s n hwr
  ⟨fun s' n' hv => i3 s' n' hv.2.1 hv.2.2, s, i1, upd_self .., rfl⟩

/-- the first store of a deletion (the meta byte) is its atomic point: the key goes from the node to absent -/
theorem delBegin_effect {m : Mem} (hi : MInv w h2 m) {s : Nat} {n : Node} (hp : m.ptr s = some n)
    (hm : m.mt s = some (h2 n.key)) :
    Abs h2 m n.key (some n) ∧ Abs h2 { m with mt := upd m.mt s none, wr := .del s } n.key none := by
  refine ⟨⟨s, hm, hp, rfl⟩, fun s' n' ⟨w1, w2, w3⟩ => ?_⟩
  -- the only slot with the key is s, and its meta byte is now empty
  cases hi.uniq _ _ _ _ w2 hp w3
  cases (upd_self ..).symm.trans w1

/-- the second store of a deletion changes no key's mapping -/
theorem delEnd_silent {m : Mem} (hi : MInv w h2 m) {s : Nat} (hwr : m.wr = .del s) (k' : Nat) (v : Option Node) :
    Abs h2 { m with ptr := upd m.ptr s none, wr := .idle } k' v ↔ Abs h2 m k' v :=
  Store.abs v (P := fun _ => False) (.of_ptr (fun _ _ hm => nomatch hm.symm.trans (hi.delI s hwr)) nofun) id

/-- an in-place replacement is one store: the key goes from the old node to the new one -/
theorem update_effect {m : Mem} {s : Nat} {n n' : Node} (hp : m.ptr s = some n) (hm : m.mt s = some (h2 n.key))
    (hk : n'.key = n.key) :
    Abs h2 m n.key (some n) ∧ Abs h2 { m with ptr := upd m.ptr s (some n') } n.key (some n') :=
  ⟨⟨s, hm, hp, rfl⟩, s, hm, upd_self .., hk⟩

/-- publishing a new bucket is one store: the key goes from absent to the node it carries -/
theorem append_effect {m : Mem} {k : Nat} {n : Node} (hk : n.key = k) :
    Abs h2 { m with mt := upd m.mt (m.len * w) (some (h2 k)), ptr := upd m.ptr (m.len * w) (some n),
                    len := m.len + 1 } k (some n) :=
  ⟨m.len * w, upd_self .., upd_self .., hk⟩

/-- a frozen chain never changes again: what a late reader finds there is what the table held when it was replaced -/
theorem frozen {m m' : Mem} (hi : MInv w h2 m) (hl : m.live = false) (h : WStep w h2 m m') :
    m'.mt = m.mt ∧ m'.ptr = m.ptr ∧ m'.len = m.len := by
  cases h with
  | retire => exact ⟨rfl, rfl, rfl⟩
  | insBegin _ _ _ hl' | delBegin _ _ hl' | update _ _ _ hl' | append _ _ hl' => cases hl.symm.trans hl'
  | insEnd _ _ hwr | delEnd _ hwr => cases (hi.frz hl).symm.trans hwr

/-- **Lock-free reads are linearizable.**  In every reachable state, under every interleaving of any number of readers with
    the writer's individual stores: what a finished reader returned (a node, or "absent") is what its key was mapped to at
    some instant between the reader's first and last step. -/
theorem read_linearizable (hw : 0 < w) {s : St} (h : Reach w h2 s) {r k : Nat} {v : Option Node}
    (hd : s.m.rd r = .done k v) : s.seen r v := by
  have := (reach_inv hw h).2 r
  rwa [hd] at this

/-- **Lock-free reads are linearizable, stated over runs.**  If reader r has returned v for key k in a reachable state s, then
    there is a reachable state s0 on the way to s in which r was searching for k and the chain mapped k to exactly v. -/
theorem read_linearizable_run (hw : 0 < w) {s : St} (h : Reach w h2 s) {r k : Nat} {v : Option Node}
    (hd : s.m.rd r = .done k v) :
    ∃ s0, Reach w h2 s0 ∧ Run w h2 s0 s ∧ (s0.m.rd r).key = some k ∧ Abs h2 s0.m k v := by
  obtain ⟨s0, k', hk, h0⟩ := seen_key w h2 h (read_linearizable w h2 hw h hd)
  rw [hd] at hk
  cases hk
  exact ⟨s0, h0⟩

end

end OtterVerif.Conc.Bucket
