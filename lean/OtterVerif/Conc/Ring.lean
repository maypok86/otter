/-
  Conc.Ring — interleaving model of internal/lossy/ring.go: ONE ring, unboundedly many producers, the single consumer.

  Atomic steps (sync/atomic operations are sequentially consistent single steps):
    reserve x   a producer that loaded head (some earlier, hence smaller-or-equal, value h0 of the monotone head) and the
                current tail t with t - h0 < 16 wins the CAS tail: t → t+1; it owns absolute index t and will publish x there.
                (t - h0 < 16 for some h0 ≤ head is equivalent to t - head < 16; a producer whose CAS fails, or that sees a
                full ring, changes nothing.)
    publish i   the owner of index i stores its element into slot i mod 16
    cStart      the consumer loads head and tail (tail ≠ head) and starts draining from head up to the loaded tail
    cTake       the consumer finds the slot of its local index published: clears it, hands the element over, advances
    cStop       the consumer reaches the loaded tail or an unpublished slot: stores head
-/
namespace OtterVerif.Conc.Ring

structure St where
  head : Nat := 0
  tail : Nat := 0
  slot : Nat → Option Nat := fun _ => none     -- the 16 slots (argument taken mod 16)
  res : Nat → Bool := fun _ => false            -- reserved but not yet published, by absolute index
  val : Nat → Nat := fun _ => 0                 -- the element recorded at an absolute index
  cons : Option (Nat × Nat) := none             -- the consumer's local (index, loaded tail) while draining
  delivered : List Nat := []                    -- elements handed to the policy, in order

def upd {α : Type} (f : Nat → α) (i : Nat) (v : α) : Nat → α := fun j => if j = i then v else f j
@[simp] theorem upd_self {α : Type} (f : Nat → α) (i : Nat) (v : α) : upd f i v i = v := by simp [upd]
theorem upd_other {α : Type} {f : Nat → α} {i j : Nat} {v : α} (h : j ≠ i) : upd f i v j = f j := by simp [upd, h]
theorem upd_apply {α : Type} (f : Nat → α) (i : Nat) (v : α) (j : Nat) : upd f i v j = if j = i then v else f j := rfl

/-- the first index not yet handed over -/
def hcur (s : St) : Nat := match s.cons with | some (h, _) => h | none => s.head

inductive Step : St → St → Prop
  | reserve (s : St) (x : Nat) : s.tail - s.head < 16 →
      Step s { s with tail := s.tail + 1, res := upd s.res s.tail true, val := upd s.val s.tail x }
  | publish (s : St) (i : Nat) : s.res i = true →
      Step s { s with slot := upd s.slot (i % 16) (some (s.val i)), res := upd s.res i false }
  | cStart (s : St) : s.cons = none → s.tail ≠ s.head →
      Step s { s with cons := some (s.head, s.tail) }
  | cTake (s : St) (h te v : Nat) : s.cons = some (h, te) → h ≠ te → s.slot (h % 16) = some v →
      Step s { s with slot := upd s.slot (h % 16) none, cons := some (h + 1, te), delivered := s.delivered ++ [v] }
  | cStop (s : St) (h te : Nat) : s.cons = some (h, te) → (h = te ∨ s.slot (h % 16) = none) →
      Step s { s with head := h, cons := none }

inductive Reach : St → Prop
  | init : Reach {}
  | step {s s' : St} : Reach s → Step s s' → Reach s'

/-- the invariant, over the components (hc = the consumer's current index): a `show` with the components after a step presents
    every clause with the record projections reduced, as `omega` needs them -/
structure InvC (head tail : Nat) (slot : Nat → Option Nat) (res : Nat → Bool) (val : Nat → Nat) (cons : Option (Nat × Nat))
    (delivered : List Nat) (hc : Nat) : Prop where
  head_le : head ≤ hc
  le_tail : hc ≤ tail
  cap : tail - head ≤ 16
  cons_le : ∀ h te, cons = some (h, te) → h ≤ te ∧ te ≤ tail
  /-- reservations are inside the window -/
  resw : ∀ i, res i = true → hc ≤ i ∧ i < tail
  /-- inside the window a slot holds exactly the published element of its index -/
  win : ∀ i, hc ≤ i → i < tail → slot (i % 16) = if res i then none else some (val i)
  /-- the rest of the turn that starts at the consumer's index — every other slot — is empty -/
  out : ∀ i, tail ≤ i → i < hc + 16 → slot (i % 16) = none
  /-- what was handed over is exactly the elements of the indices below the consumer's index, each once, in order -/
  dlv : delivered = (List.range hc).map val

def Inv (s : St) : Prop := InvC s.head s.tail s.slot s.res s.val s.cons s.delivered (hcur s)

theorem hcur_none {s : St} (h : s.cons = none) : hcur s = s.head := by unfold hcur; rw [h]
theorem hcur_some {s : St} {h te : Nat} (hc : s.cons = some (h, te)) : hcur s = h := by unfold hcur; rw [hc]

theorem inv_init : Inv {} :=
  ⟨Nat.le_refl _, Nat.le_refl _, (by decide), nofun, nofun, fun i _ h2 => absurd h2 (Nat.not_lt_zero _), fun _ _ _ => rfl, rfl⟩

theorem inv_step {s s' : St} (hi : Inv s) (hs : Step s s') : Inv s' := by
  cases hs with
  | reserve x hg =>
    show InvC s.head (s.tail + 1) s.slot (upd s.res s.tail true) (upd s.val s.tail x) s.cons s.delivered (hcur s)
    have ⟨head_le, le_tail, cap, cons_le, resw, win, out, dlv⟩ := hi
    refine { hi with
      le_tail := Nat.le_succ_of_le le_tail
      cap := by omega
      cons_le := fun h te e => ⟨(cons_le h te e).1, Nat.le_succ_of_le (cons_le h te e).2⟩
      resw := fun i hres => ?_
      win := fun i h1 h2 => ?_
      out := fun i h1 h2 => out i (Nat.le_of_succ_le h1) h2
      dlv := ?_ }
    · rw [upd_apply] at hres
      split at hres
      next e => subst e; exact ⟨le_tail, Nat.lt_succ_self _⟩
      next => exact ⟨(resw i hres).1, Nat.lt_succ_of_lt (resw i hres).2⟩
    · simp only [upd_apply]
      split
      next e =>
        -- the freshly reserved index finds its slot empty
        subst e; exact out s.tail (Nat.le_refl _) (by omega)
      next e => exact win i h1 (Nat.lt_of_le_of_ne (Nat.le_of_lt_succ h2) e)
    · rw [dlv]
      refine List.map_congr_left fun a ha => (upd_other ?_).symm
      have := List.mem_range.mp ha
      omega
  | publish i hres =>
    show InvC s.head s.tail (upd s.slot (i % 16) (some (s.val i))) (upd s.res i false) s.val s.cons s.delivered (hcur s)
    have hwin := hi.resw i hres
    have := hi.head_le
    have := hi.cap
    refine { hi with resw := fun k hk => ?_, win := fun k h1 h2 => ?_, out := fun k h1 h2 => ?_ }
    · rw [upd_apply] at hk
      split at hk
      · cases hk
      · exact hi.resw k hk
    · simp only [upd_apply (f := s.res)]
      split
      next e => subst e; exact upd_self ..
      next e => exact (upd_other (by omega)).trans (hi.win k h1 h2)
    · exact (upd_other (by omega)).trans (hi.out k h1 h2)
  | cStart hcn hne =>
    show InvC s.head s.tail s.slot s.res s.val (some (s.head, s.tail)) s.delivered s.head
    rw [Inv, hcur_none hcn] at hi
    refine { hi with cons_le := ?_ }
    rintro _ _ ⟨⟩
    exact ⟨hi.le_tail, Nat.le_refl _⟩
  | cTake h te v hcn hne hsl =>
    show InvC s.head s.tail (upd s.slot (h % 16) none) s.res s.val (some (h + 1, te)) (s.delivered ++ [v]) (h + 1)
    rw [Inv, hcur_some hcn] at hi
    have ⟨head_le, le_tail, cap, cons_le, resw, win, out, dlv⟩ := hi
    have hb := cons_le h te hcn
    -- the slot of h is published: h is no longer reserved and v is its element
    obtain ⟨hres, rfl⟩ : s.res h = false ∧ v = s.val h := by
      have hwh := hsl.symm.trans (win h (Nat.le_refl _) (by omega))
      split at hwh
      · cases hwh
      next hr => exact ⟨Bool.eq_false_iff.mpr hr, Option.some.inj hwh⟩
    refine { hi with
      head_le := Nat.le_succ_of_le head_le
      le_tail := by omega
      cons_le := ?_
      resw := fun i hri => ?_
      win := fun i h1 h2 => (upd_other (by omega)).trans (win i (Nat.le_of_succ_le h1) h2)
      out := fun i h1 h2 => ?_
      dlv := by rw [dlv, List.range_succ, List.map_append]; rfl }
    · rintro _ _ ⟨⟩
      exact ⟨by omega, hb.2⟩
    · have := resw i hri
      have : i ≠ h := fun e => by subst e; exact nomatch hres.symm.trans hri
      omega
    · -- the turn now ends at h + 16, whose slot is the one just cleared
      rw [upd_apply]
      split
      · rfl
      next e => exact out i h1 (by omega)
  | cStop h te hcn hstop =>
    show InvC h s.tail s.slot s.res s.val none s.delivered h
    rw [Inv, hcur_some hcn] at hi
    exact { hi with head_le := Nat.le_refl _, cap := by have := hi.cap; have := hi.head_le; omega, cons_le := nofun }

theorem reach_inv {s : St} (h : Reach s) : Inv s := by
  induction h with
  | init => exact inv_init
  | step _ hs ih => exact inv_step ih hs

inductive Steps : St → St → Prop
  | refl (s : St) : Steps s s
  | tail {s s' s'' : St} : Step s s' → Steps s' s'' → Steps s s''

theorem steps_reach {s s' : St} (h : Reach s) (hs : Steps s s') : Reach s' := by
  induction hs with
  | refl => exact h
  | tail st _ ih => exact ih (Reach.step h st)

theorem drain_from {n : Nat} {s : St} {h : Nat} (hi : Inv s) (hq : ∀ i, s.res i = false) (hc : s.cons = some (h, s.tail))
    (hn : s.tail - h = n) :
    ∃ s', Steps s s' ∧ s'.head = s.tail ∧ s'.tail = s.tail ∧ s'.cons = none ∧ s'.delivered = (List.range s.tail).map s.val := by
  induction n generalizing s h with
  | zero =>
    have he : h = s.tail := by have := hi.cons_le h s.tail hc; omega
    refine ⟨_, Steps.tail (Step.cStop s h s.tail hc (Or.inl he)) (Steps.refl _), he, rfl, rfl, ?_⟩
    show s.delivered = _
    rw [hi.dlv, hcur_some hc, he]
  | succ n ih =>
    have hsl : s.slot (h % 16) = some (s.val h) := by
      have := hi.win h (by rw [hcur_some hc]; exact Nat.le_refl _) (by omega)
      rwa [hq h] at this
    have st := Step.cTake s h s.tail (s.val h) hc (by omega) hsl
    obtain ⟨s', hs', e⟩ := ih (inv_step hi st) hq rfl (by show s.tail - (h + 1) = n; omega)
    exact ⟨s', Steps.tail st hs', e⟩

/-- with nothing pending, one run of the consumer hands over everything recorded -/
theorem quiescent_drain (s : St) (hr : Reach s) (hq : ∀ i, s.res i = false) (hc : s.cons = none) :
    ∃ s', Steps s s' ∧ s'.head = s.tail ∧ s'.tail = s.tail ∧ s'.cons = none ∧ s'.delivered = (List.range s.tail).map s.val := by
  have hi := reach_inv hr
  by_cases he : s.tail = s.head
  · refine ⟨s, Steps.refl s, he.symm, rfl, hc, ?_⟩
    rw [hi.dlv, hcur_none hc, he]
  · have st := Step.cStart s hc he
    obtain ⟨s', hs', e⟩ := drain_from (inv_step hi st) hq rfl rfl
    exact ⟨s', Steps.tail st hs', e⟩

end OtterVerif.Conc.Ring
