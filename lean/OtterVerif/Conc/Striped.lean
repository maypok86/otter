/-
  Conc.Striped — interleaving model of the stripe table above the rings (internal/lossy/striped.go: expandOrRetry).

  The table (`striped`: an array of ring pointers) is only ever changed by the goroutine that won `busy.CompareAndSwap(0, 1)`:
    lockCreate j / createStore / createSkip     the slot of the caller's index is (re)checked under the lock and, if still nil,
                                                receives a NEW ring
    lockExpand / expandCopy / expandPublish     the table is still the one the caller saw: a table twice as long is allocated,
                                                the ring pointers are copied one by one, the new table is published
    lockInit                                    no table yet: a table of length 1 with a new ring is published
    unlock                                      busy.Store(0)
  Producers read tables (possibly stale ones) and add to the rings they find; the consumer walks the current table.  Table
  versions are numbered; `slot v j` is entry j of version v, `cur` the published version.

  Invariant (the theorems are in Props.C17): every ring ever created is referenced by the current table, at exactly one index
  (no ring is orphaned by an expansion, none is drained twice in a pass); whatever ring a producer finds through a stale
  table is also in the current one (its entries will be drained).
-/
namespace OtterVerif.Conc.Striped

inductive CS
  | idle
  | creating (v j : Nat)
  | expanding (v c nv : Nat)
  | unlocking
deriving DecidableEq

structure St where
  len : Nat → Nat := fun _ => 0
  slot : Nat → Nat → Option Nat := fun _ _ => none
  cur : Option Nat := none
  nver : Nat := 0
  rings : Nat := 0
  cs : CS := .idle

def upd {α : Type} (f : Nat → α) (i : Nat) (v : α) : Nat → α := fun j => if j = i then v else f j
@[simp] theorem upd_self {α : Type} (f : Nat → α) (i : Nat) (v : α) : upd f i v i = v := by simp [upd]
theorem upd_other {α : Type} {f : Nat → α} {i j : Nat} {v : α} (h : j ≠ i) : upd f i v j = f j := by simp [upd, h]

def upd2 (f : Nat → Nat → Option Nat) (v j : Nat) (x : Option Nat) : Nat → Nat → Option Nat :=
  fun v' j' => if v' = v ∧ j' = j then x else f v' j'
theorem upd2_self (f : Nat → Nat → Option Nat) (v j : Nat) (x : Option Nat) : upd2 f v j x v j = x := by simp [upd2]
theorem upd2_other {f : Nat → Nat → Option Nat} {v j v' j' : Nat} {x : Option Nat} (h : ¬ (v' = v ∧ j' = j)) :
    upd2 f v j x v' j' = f v' j' := by simp [upd2, h]
theorem upd2_apply (f : Nat → Nat → Option Nat) (v j : Nat) (x : Option Nat) (v' j' : Nat) :
    upd2 f v j x v' j' = if v' = v ∧ j' = j then x else f v' j' := rfl

inductive Step : St → St → Prop
  | lockCreate (s : St) (v j : Nat) : s.cs = .idle → s.cur = some v → j < s.len v →
      Step s { s with cs := .creating v j }
  | createStore (s : St) (v j : Nat) : s.cs = .creating v j → s.slot v j = none →
      Step s { s with slot := upd2 s.slot v j (some s.rings), rings := s.rings + 1, cs := .unlocking }
  | createSkip (s : St) (v j : Nat) : s.cs = .creating v j → s.slot v j ≠ none →
      Step s { s with cs := .unlocking }
  | lockExpand (s : St) (v : Nat) : s.cs = .idle → s.cur = some v →
      Step s { s with len := upd s.len s.nver (2 * s.len v), nver := s.nver + 1, cs := .expanding v 0 s.nver }
  | expandCopy (s : St) (v c nv : Nat) : s.cs = .expanding v c nv → c < s.len v →
      Step s { s with slot := upd2 s.slot nv c (s.slot v c), cs := .expanding v (c + 1) nv }
  | expandPublish (s : St) (v c nv : Nat) : s.cs = .expanding v c nv → c = s.len v →
      Step s { s with cur := some nv, cs := .unlocking }
  | lockInit (s : St) : s.cs = .idle → s.cur = none →
      Step s { s with len := upd s.len s.nver 1, slot := upd2 s.slot s.nver 0 (some s.rings), rings := s.rings + 1,
                      nver := s.nver + 1, cur := some s.nver, cs := .unlocking }
  | unlock (s : St) : s.cs = .unlocking → Step s { s with cs := .idle }

inductive Reach : St → Prop
  | init : Reach {}
  | step {s s' : St} : Reach s → Step s s' → Reach s'

structure Inv (s : St) : Prop where
  /-- entries exist only in allocated versions and name created rings -/
  range : ∀ v j r, s.slot v j = some r → r < s.rings ∧ v < s.nver
  curv : ∀ v, s.cur = some v → v < s.nver
  none0 : s.cur = none → s.rings = 0
  /-- every ring is in the current table -/
  cover : ∀ v, s.cur = some v → ∀ r, r < s.rings → ∃ j, j < s.len v ∧ s.slot v j = some r
  /-- at one index only -/
  inj : ∀ v, s.cur = some v → ∀ j j' r, s.slot v j = some r → s.slot v j' = some r → j = j'
  crt : ∀ v j, s.cs = .creating v j → s.cur = some v ∧ j < s.len v
  exp : ∀ v c nv, s.cs = .expanding v c nv → s.cur = some v ∧ nv < s.nver ∧ nv ≠ v ∧ s.len nv = 2 * s.len v ∧
          (∀ j, j < c → s.slot nv j = s.slot v j) ∧ (∀ j, c ≤ j → s.slot nv j = none)

theorem inv_step {s s' : St} (hi : Inv s) (h : Step s s') : Inv s' := by
  have ⟨range, curv, none0, cover, inj, crt, exp⟩ := hi
  cases h with
  | lockCreate v j hc hcur hj => exact { hi with crt := by rintro _ _ ⟨⟩; exact ⟨hcur, hj⟩, exp := nofun }
  | createStore v j hc hn =>
    obtain ⟨hcur, hj⟩ := crt v j hc
    -- the slot written held nothing, so every other entry of the current table is where it was
    have keep : ∀ j' r, s.slot v j' = some r → upd2 s.slot v j (some s.rings) v j' = some r := fun j' r h => by
      have hne : j' ≠ j := by rintro rfl; exact nomatch hn.symm.trans h
      exact (upd2_other fun e => hne e.2).trans h
    refine { hi with
      range := fun v' j' r hs => ?_
      none0 := fun hcn => nomatch hcur.symm.trans hcn
      cover := fun v' hc' r hr => ?_
      inj := fun v' hc' j1 j2 r h1 h2 => ?_
      crt := nofun
      exp := nofun }
    · simp only [upd2_apply] at hs
      split at hs
      next e => cases hs; exact ⟨Nat.lt_succ_self _, e.1 ▸ curv v hcur⟩
      next => exact ⟨Nat.lt_succ_of_lt (range v' j' r hs).1, (range v' j' r hs).2⟩
    · cases hcur.symm.trans hc'
      rcases Nat.lt_succ_iff_lt_or_eq.mp hr with hr | rfl
      · exact (cover v hcur r hr).imp fun j' h => ⟨h.1, keep j' r h.2⟩
      · exact ⟨j, hj, upd2_self ..⟩
    · cases hcur.symm.trans hc'
      -- the new ring sits at j only; the older ones are below `rings` and keep their one index
      simp only [upd2_apply] at h1 h2
      split at h1 <;> split at h2
      · omega
      · cases h1; exact absurd (range v j2 _ h2).1 (Nat.lt_irrefl _)
      · cases h2; exact absurd (range v j1 _ h1).1 (Nat.lt_irrefl _)
      · exact inj v hcur j1 j2 r h1 h2
  | createSkip v j hc hn => exact { hi with crt := nofun, exp := nofun }
  | lockExpand v hc hcur =>
    have hv := curv v hcur
    have lenO : ∀ v', v' < s.nver → upd s.len s.nver (2 * s.len v) v' = s.len v' :=
      fun v' hlt => upd_other (Nat.ne_of_lt hlt)
    refine { hi with
      range := fun v' j r hs => ?_
      curv := fun v' hc' => ?_
      cover := fun v' hc' r hr => ?_
      crt := nofun
      exp := ?_ }
    · exact ⟨(range v' j r hs).1, Nat.lt_succ_of_lt (range v' j r hs).2⟩
    · exact Nat.lt_succ_of_lt (curv v' hc')
    · exact (cover v' hc' r hr).imp fun j h => ⟨Nat.lt_of_lt_of_eq h.1 (lenO v' (curv v' hc')).symm, h.2⟩
    · rintro _ _ _ ⟨⟩
      refine ⟨hcur, Nat.lt_succ_self _, Nat.ne_of_gt hv, ?_, nofun, fun j _ => ?_⟩
      · exact (upd_self ..).trans (congrArg (2 * ·) (lenO v hv).symm)
      · -- the new version is not allocated yet: it has no entry
        cases hs : s.slot s.nver j with
        | none => rfl
        | some r => exact absurd (range _ _ _ hs).2 (Nat.lt_irrefl _)
  | expandCopy v c nv hc hlt =>
    obtain ⟨hcur, hnv, hne, hlen, hcp, hrest⟩ := exp v c nv hc
    have slotO : ∀ j', upd2 s.slot nv c (s.slot v c) v j' = s.slot v j' :=
      fun j' => upd2_other fun e => hne e.1.symm
    refine { hi with
      range := fun v' j r hs => ?_
      cover := fun v' hc' r hr => ?_
      inj := fun v' hc' j1 j2 r h1 h2 => ?_
      crt := nofun
      exp := ?_ }
    · simp only [upd2_apply] at hs
      split at hs
      next e => exact ⟨(range v c r hs).1, e.1 ▸ hnv⟩
      next => exact range v' j r hs
    · cases hcur.symm.trans hc'
      exact (cover v hcur r hr).imp fun j h => ⟨h.1, (slotO j).trans h.2⟩
    · cases hcur.symm.trans hc'
      exact inj v hcur j1 j2 r ((slotO j1).symm.trans h1) ((slotO j2).symm.trans h2)
    · rintro _ _ _ ⟨⟩
      refine ⟨hcur, hnv, hne, hlen, fun j hj => ?_, fun j hj => ?_⟩
      · show upd2 s.slot nv c (s.slot v c) nv j = upd2 s.slot nv c (s.slot v c) v j
        rw [slotO j, upd2_apply]
        split
        next e => rw [e.2]
        next e => exact hcp j (by omega)
      · exact (upd2_other fun e => by omega).trans (hrest j (by omega))
  | expandPublish v c nv hc hce =>
    obtain ⟨hcur, hnv, hne, hlen, hcp, hrest⟩ := exp v c nv hc
    subst hce
    -- an index of the new table that holds a ring lies in the copied part
    have low : ∀ j r, s.slot nv j = some r → s.slot v j = some r := fun j r hs => by
      rcases Nat.lt_or_ge j (s.len v) with hj | hj
      · exact (hcp j hj).symm.trans hs
      · exact nomatch (hrest j hj).symm.trans hs
    refine { hi with curv := ?_, none0 := nofun, cover := ?_, inj := ?_, crt := nofun, exp := nofun }
    · rintro _ ⟨⟩; exact hnv
    · rintro _ ⟨⟩ r hr
      exact (cover v hcur r hr).imp fun j h => ⟨Nat.lt_of_lt_of_eq (by omega) hlen.symm, (hcp j h.1).trans h.2⟩
    · rintro _ ⟨⟩ j1 j2 r h1 h2
      exact inj v hcur j1 j2 r (low j1 r h1) (low j2 r h2)
  | lockInit hc hcur =>
    have fresh : ∀ v' j r, s.slot v' j ≠ some r := fun v' j r hs => by
      have := (range v' j r hs).1; have := none0 hcur; omega
    have len1 : 0 < upd s.len s.nver 1 s.nver := (upd_self ..).symm ▸ Nat.one_pos
    -- the only entry is the new ring at index 0 of the new table
    have only : ∀ v' j r, upd2 s.slot s.nver 0 (some s.rings) v' j = some r → v' = s.nver ∧ j = 0 ∧ r = s.rings := by
      intro v' j r hs
      rw [upd2_apply] at hs
      split at hs
      next e => cases hs; exact ⟨e.1, e.2, rfl⟩
      next => exact absurd hs (fresh v' j r)
    refine { range := fun v' j r hs => ?_, curv := ?_, none0 := nofun, cover := ?_, inj := ?_, crt := nofun, exp := nofun }
    · obtain ⟨rfl, rfl, rfl⟩ := only v' j r hs
      exact ⟨Nat.lt_succ_self _, Nat.lt_succ_self _⟩
    · rintro _ ⟨⟩; exact Nat.lt_succ_self _
    · rintro _ ⟨⟩ r hr
      have : r = s.rings := by have := none0 hcur; have : r < s.rings + 1 := hr; omega
      exact ⟨0, len1, this ▸ upd2_self ..⟩
    · rintro _ ⟨⟩ j1 j2 r h1 h2
      rw [(only _ j1 r h1).2.1, (only _ j2 r h2).2.1]
  | unlock hc => exact { hi with crt := nofun, exp := nofun }

theorem reach_inv {s : St} (h : Reach s) : Inv s := by
  induction h with
  | init => exact ⟨nofun, nofun, fun _ => rfl, nofun, nofun, nofun, nofun⟩
  | step _ hst ih => exact inv_step ih hst

theorem no_table_no_rings {s : St} (h : Reach s) (hc : s.cur = none) : s.rings = 0 := (reach_inv h).none0 hc

end OtterVerif.Conc.Striped
