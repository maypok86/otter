/-
  Conc.Events — interleaving model of how an entry leaves the cache and how that is reported (cache_impl.go: atomicSet,
  atomicDelete, deleteNodeFromMap, afterWrite, afterDelete, evictNode, runTask).

  Every departure is decided inside the table's critical section for the key (hashmap.Compute): the caller that finds the
  node still installed removes it, reports it to OnAtomicDeletion there and then, and becomes responsible for exactly one
  OnDeletion — either by enqueueing a task (update / delete; the maintenance reports when it runs the task) or, for an
  eviction or expiration decided by the maintenance itself, directly.  A caller that finds the node no longer installed
  (deleteNodeFromMap's pointer comparison fails) reports nothing.

  Atomic steps (any number of concurrent callers; one step = one critical section or one task execution):
    set k           a new node n replaces whatever key k holds (old): atomic event for old, task add(n) or update(n, old)
                    (`setNew` when the key holds nothing, `setOld` otherwise)
    invalidate k    key k holds o: removed, atomic event, task delete(o)
    evict n         the maintenance found n due (size / expiry) and n is still installed: removed, atomic event, OnDeletion
                    (nothing happens when n is no longer installed: there is no step for that)
    run             any pending task is executed (the write buffer is FIFO, a full buffer lets the writer hand its task over
                    directly: the model allows every order): update(n, old) and delete(n) report old / n to OnDeletion
-/
namespace OtterVerif.Conc.Events

inductive Task
  | add (n : Nat)
  | update (n old : Nat)
  | delete (n : Nat)
deriving DecidableEq, Repr

/-- the node whose departure the task reports -/
def Task.removed : Task → Option Nat
  | .add _ => none
  | .update _ o => some o
  | .delete n => some n

structure St where
  cell : Nat → Option Nat := fun _ => none     -- key ↦ installed node
  keyOf : Nat → Nat := fun _ => 0               -- node ↦ its key
  next : Nat := 0                               -- nodes created so far
  queue : List Task := []
  atomicLog : List Nat := []                    -- OnAtomicDeletion, in order
  delLog : List Nat := []                       -- OnDeletion, in order

def upd {α : Type} (f : Nat → α) (i : Nat) (v : α) : Nat → α := fun j => if j = i then v else f j
@[simp] theorem upd_self {α : Type} (f : Nat → α) (i : Nat) (v : α) : upd f i v i = v := by simp [upd]
theorem upd_other {α : Type} {f : Nat → α} {i j : Nat} {v : α} (h : j ≠ i) : upd f i v j = f j := by simp [upd, h]
theorem upd_apply {α : Type} (f : Nat → α) (i : Nat) (v : α) (j : Nat) : upd f i v j = if j = i then v else f j := rfl

inductive Step : St → St → Prop
  | setNew (s : St) (k : Nat) : s.cell k = none →
      Step s { s with cell := upd s.cell k (some s.next), keyOf := upd s.keyOf s.next k, next := s.next + 1,
                      queue := s.queue ++ [.add s.next] }
  | setOld (s : St) (k o : Nat) : s.cell k = some o →
      Step s { s with cell := upd s.cell k (some s.next), keyOf := upd s.keyOf s.next k, next := s.next + 1,
                      queue := s.queue ++ [.update s.next o], atomicLog := s.atomicLog ++ [o] }
  | invalidate (s : St) (k o : Nat) : s.cell k = some o →
      Step s { s with cell := upd s.cell k none, queue := s.queue ++ [.delete o], atomicLog := s.atomicLog ++ [o] }
  | evict (s : St) (n : Nat) : s.cell (s.keyOf n) = some n →
      Step s { s with cell := upd s.cell (s.keyOf n) none, atomicLog := s.atomicLog ++ [n], delLog := s.delLog ++ [n] }
  | run (s : St) (q1 q2 : List Task) (t : Task) : s.queue = q1 ++ t :: q2 →
      Step s { s with queue := q1 ++ q2, delLog := s.delLog ++ t.removed.toList }

inductive Reach : St → Prop
  | init : Reach {}
  | step {s s' : St} : Reach s → Step s s' → Reach s'

/-- 1 when node n is the installed node of its key -/
def inT (cell : Nat → Option Nat) (keyOf : Nat → Nat) (n : Nat) : Nat := if cell (keyOf n) = some n then 1 else 0
/-- pending tasks that will report n -/
def pend (n : Nat) (q : List Task) : Nat := q.countP (fun t => t.removed == some n)
/-- 1 when node n has been created (identities are handed out in order: the nodes created so far are those below `next`) -/
def created (next n : Nat) : Nat := if n < next then 1 else 0

/-- a list of node ids in which, among nodes of the same key, ids increase -/
def KeyOrdered (keyOf : Nat → Nat) (l : List Nat) : Prop := l.Pairwise (fun a b => keyOf a = keyOf b → a < b)

/-- The invariant, over the components.  Node identities are handed out in installation order (`next` only grows), and
    everything already reported for a key is older than the node the key holds now: so each new report — always of the node
    installed at that moment — is younger than all earlier reports for the same key. -/
structure InvC (cell : Nat → Option Nat) (keyOf : Nat → Nat) (next : Nat) (queue : List Task) (atomicLog delLog : List Nat) :
    Prop where
  wf : ∀ k n, cell k = some n → n < next ∧ keyOf n = k
  /-- a created node is installed, or waiting in one task, or reported — exactly one of the three -/
  sum : ∀ n, inT cell keyOf n + pend n queue + delLog.count n = created next n
  /-- the atomic report is made exactly when the node leaves the table -/
  atomic_once : ∀ n, atomicLog.count n + inT cell keyOf n = created next n
  below : ∀ k o, cell k = some o → ∀ n, n ∈ atomicLog → keyOf n = k → n < o
  ord : KeyOrdered keyOf atomicLog

def Inv (s : St) : Prop := InvC s.cell s.keyOf s.next s.queue s.atomicLog s.delLog

/-! The counting lemmas are additive (`new + what left = old + what came`), so that `sum` and `atomic_once` follow by
    arithmetic. -/

theorem pend_append (n : Nat) (q : List Task) (t : Task) :
    pend n (q ++ [t]) = pend n q + (if t.removed = some n then 1 else 0) := by
  simp only [pend, List.countP_append, List.countP_cons, List.countP_nil, beq_iff_eq, Nat.zero_add]

theorem pend_remove (n : Nat) (q1 q2 : List Task) (t : Task) :
    pend n (q1 ++ t :: q2) = pend n (q1 ++ q2) + (if t.removed = some n then 1 else 0) := by
  simp only [pend, List.countP_append, List.countP_cons, beq_iff_eq]
  omega

theorem count_toList (l : List Nat) (o : Option Nat) (n : Nat) :
    (l ++ o.toList).count n = l.count n + (if o = some n then 1 else 0) := by
  cases o <;> simp [List.count_cons]

theorem count_snoc (l : List Nat) (o n : Nat) : (l ++ [o]).count n = l.count n + (if o = n then 1 else 0) := by
  rw [List.count_append, List.count_singleton]; simp only [beq_iff_eq]

theorem created_succ (next m : Nat) : created (next + 1) m = created next m + (if m = next then 1 else 0) := by
  unfold created; grind

theorem inT_set {cell : Nat → Option Nat} {keyOf : Nat → Nat} {next : Nat}
    (wf : ∀ k n, cell k = some n → n < next ∧ keyOf n = k) (k m : Nat) :
    inT (upd cell k (some next)) (upd keyOf next k) m + (if cell k = some m then 1 else 0) =
      inT cell keyOf m + (if m = next then 1 else 0) := by
  have := wf k m
  have := wf (keyOf m) next
  grind [inT, upd]

theorem inT_clear {cell : Nat → Option Nat} {keyOf : Nat → Nat} {next : Nat}
    (wf : ∀ k n, cell k = some n → n < next ∧ keyOf n = k) {k o : Nat} (ho : cell k = some o) (m : Nat) :
    inT (upd cell k none) keyOf m + (if o = m then 1 else 0) = inT cell keyOf m := by
  have := wf k o ho
  grind [inT, upd]

theorem keyOrdered_snoc {keyOf : Nat → Nat} {l : List Nat} {o : Nat} (h : KeyOrdered keyOf l)
    (hb : ∀ n, n ∈ l → keyOf n = keyOf o → n < o) : KeyOrdered keyOf (l ++ [o]) :=
  List.pairwise_append.mpr ⟨h, List.pairwise_singleton _ _, fun a ha _ hb' => List.mem_singleton.mp hb' ▸ hb a ha⟩

theorem keyOrdered_congr {keyOf keyOf' : Nat → Nat} {l : List Nat} (h : KeyOrdered keyOf l)
    (he : ∀ n, n ∈ l → keyOf' n = keyOf n) : KeyOrdered keyOf' l :=
  List.Pairwise.imp_of_mem (fun {a b} ha hb hab hk => hab (he a ha ▸ he b hb ▸ hk)) h

/-- `atomic_once` read as membership: the atomic log holds exactly the created nodes that are no longer installed -/
theorem InvC.mem_atomicLog {cell keyOf next queue atomicLog delLog} (hi : InvC cell keyOf next queue atomicLog delLog)
    {n : Nat} : n ∈ atomicLog ↔ n < next ∧ cell (keyOf n) ≠ some n := by
  have := hi.atomic_once n
  rw [← List.count_pos_iff]
  grind [inT, created]

/-- the node `o` that leaves key `k` is reported atomically: it is younger than every earlier report for `k` -/
theorem InvC.report {cell keyOf next queue atomicLog delLog} (hi : InvC cell keyOf next queue atomicLog delLog) {k o : Nat}
    (ho : cell k = some o) :
    (∀ n, n ∈ atomicLog ++ [o] → n < next) ∧ KeyOrdered keyOf (atomicLog ++ [o]) ∧
      ∀ k' o', k' ≠ k → cell k' = some o' → ∀ n, n ∈ atomicLog ++ [o] → keyOf n = k' → n < o' := by
  have mem : ∀ n, n ∈ atomicLog ++ [o] → n ∈ atomicLog ∨ n = o := fun n hn =>
    (List.mem_append.mp hn).imp_right List.mem_singleton.mp
  refine ⟨fun n hn => ?_, keyOrdered_snoc hi.ord fun n hn hk => hi.below k o ho n hn (hk.trans (hi.wf k o ho).2), ?_⟩
  · rcases mem n hn with h | rfl
    · exact (hi.mem_atomicLog.mp h).1
    · exact (hi.wf k n ho).1
  · intro k' o' hk' hc' n hn hk
    rcases mem n hn with h | rfl
    · exact hi.below k' o' hc' n h hk
    · exact absurd ((hi.wf k n ho).2.symm.trans hk).symm hk'

/-- `set`: a new node is installed for key `k`; the task `t` reports what it replaces, which is reported atomically at once -/
theorem InvC.install {cell keyOf next queue atomicLog delLog} (hi : InvC cell keyOf next queue atomicLog delLog) (k : Nat)
    {t : Task} (ht : t.removed = cell k) {al : List Nat} (hal : al = atomicLog ++ (cell k).toList) :
    InvC (upd cell k (some next)) (upd keyOf next k) (next + 1) (queue ++ [t]) al delLog := by
  subst hal
  have key : ∀ n, n < next → upd keyOf next k n = keyOf n := fun n hn => upd_other (Nat.ne_of_lt hn)
  -- the log after the step: still below `next`, ordered, and older than what the other keys hold
  have ⟨lt', ord', below'⟩ : (∀ n, n ∈ atomicLog ++ (cell k).toList → n < next) ∧
      KeyOrdered keyOf (atomicLog ++ (cell k).toList) ∧
      ∀ k' o', k' ≠ k → cell k' = some o' → ∀ n, n ∈ atomicLog ++ (cell k).toList → keyOf n = k' → n < o' := by
    cases ho : cell k with
    | none =>
      exact ⟨by simpa using fun n hn => (hi.mem_atomicLog.mp hn).1, by simpa using hi.ord,
        by simpa using fun k' o' _ => hi.below k' o'⟩
    | some o => exact hi.report ho
  refine {
    wf := fun k' n hn => ?_
    sum := fun m => ?_
    atomic_once := fun m => ?_
    below := fun k' o' hc' n hn hk => ?_
    ord := keyOrdered_congr ord' fun n hn => key n (lt' n hn) }
  · rw [upd_apply] at hn
    split at hn
    next e => cases hn; exact ⟨Nat.lt_succ_self _, (upd_self ..).trans e.symm⟩
    next => exact ⟨Nat.lt_succ_of_lt (hi.wf k' n hn).1, (key n (hi.wf k' n hn).1).trans (hi.wf k' n hn).2⟩
  · have := hi.sum m; have := inT_set hi.wf k m
    rw [pend_append, created_succ, ht]; omega
  · have := hi.atomic_once m; have := inT_set hi.wf k m
    rw [count_toList, created_succ]; omega
  · rw [key n (lt' n hn)] at hk
    rw [upd_apply] at hc'
    split at hc'
    next => cases hc'; exact lt' n hn
    next e => exact below' k' o' e hc' n hn hk

/-- `invalidate`, `evict`: the node of key `k` leaves the table and is reported atomically; `hq`: one more report of it is
    pending or made -/
theorem InvC.remove {cell keyOf next queue atomicLog delLog} (hi : InvC cell keyOf next queue atomicLog delLog) {k o : Nat}
    (ho : cell k = some o) {queue' : List Task} {delLog' : List Nat}
    (hq : ∀ n, pend n queue' + delLog'.count n = pend n queue + delLog.count n + (if o = n then 1 else 0)) :
    InvC (upd cell k none) keyOf next queue' (atomicLog ++ [o]) delLog' := by
  obtain ⟨_, ord', below'⟩ := hi.report ho
  refine {
    wf := fun k' n hn => ?_
    sum := fun m => ?_
    atomic_once := fun m => ?_
    below := fun k' o' hc' n hn hk => ?_
    ord := ord' }
  · rw [upd_apply] at hn
    split at hn
    · cases hn
    · exact hi.wf k' n hn
  · have := hi.sum m; have := inT_clear hi.wf ho m; have := hq m
    omega
  · have := hi.atomic_once m; have := inT_clear hi.wf ho m
    rw [count_snoc]; omega
  · rw [upd_apply] at hc'
    split at hc'
    · cases hc'
    next e => exact below' k' o' e hc' n hn hk

theorem inv_step {s s' : St} (hi : Inv s) (h : Step s s') : Inv s' := by
  cases h with
  | setNew k hc => exact hi.install k (t := .add s.next) hc.symm (by rw [hc]; exact (List.append_nil _).symm)
  | setOld k o hc => exact hi.install k (t := .update s.next o) hc.symm (by rw [hc]; rfl)
  | invalidate k o hc => exact hi.remove hc fun n => by rw [pend_append]; simp only [Task.removed, Option.some.injEq]; omega
  | evict n hc => exact hi.remove hc fun m => by simp only [count_snoc]; omega
  | run q1 q2 t hq =>
    refine { hi with sum := fun m => ?_ }
    show inT s.cell s.keyOf m + pend m (q1 ++ q2) + (s.delLog ++ t.removed.toList).count m = created s.next m
    have := hi.sum m
    rw [hq, pend_remove] at this
    rw [count_toList]
    omega

theorem reach_inv {s : St} (h : Reach s) : Inv s := by
  induction h with
  | init => exact ⟨nofun, fun n => by simp [inT, pend, created], fun n => by simp [inT, created], nofun, List.Pairwise.nil⟩
  | step _ hst ih => exact inv_step ih hst

theorem inT_le (cell : Nat → Option Nat) (keyOf : Nat → Nat) (n : Nat) : inT cell keyOf n ≤ 1 := by
  unfold inT; split <;> omega
theorem created_le (next n : Nat) : created next n ≤ 1 := by
  unfold created; split <;> omega

end OtterVerif.Conc.Events
