/-
  Conc.Resize — interleaving model of the writer / resizer handshake of internal/hashmap (Map.Compute vs Map.resize with
  copyBucket / copyBucketWithDestLock), for ONE key, unboundedly many writers and any number of successive resizes.

  Table generation g has, for the key, one root bucket with a mutex `lock g` and a content cell `content g`.
  A writer (Compute) that loaded table g:  wLock g (acquire the root bucket's mutex) → wCheck1 (resizing flag is clear; else
  wRetreat0) → wCheck2 (g is still the current table; else wRetreat1) → wApply (store under the lock, unlock).
  The resizer: rStart (CAS resizing: false → true) → rCopy (lock the source root bucket — possible only when no writer holds
  it —, copy its chain into the next table, unlock) → rPublish (table := next) → rDone (resizing := false); or rGiveUp.
  `abs` is the specification's value of the key: it changes exactly at wApply (the linearization point of a write).
-/
namespace OtterVerif.Conc.Resize

structure St where
  cur : Nat := 0                                 -- generation of the current table
  resizing : Bool := false
  copied : Bool := false                         -- the resizer has copied the key's bucket into table cur+1
  published : Bool := false                      -- the resizer has published table cur (the flag is still set)
  lock : Nat → Bool := fun _ => false            -- root-bucket mutex of the key in table g
  c1 : Nat → Nat := fun _ => 0                   -- writers holding lock g that have passed the resizing check
  passed : Nat → Nat := fun _ => 0               -- writers holding lock g that have passed both checks
  locked : Nat → Nat := fun _ => 0               -- writers holding lock g that have not checked anything yet
  content : Nat → Option Nat := fun _ => none    -- the key's value in table g
  abs : Option Nat := none                       -- the specification's value

def upd {α : Type} (f : Nat → α) (i : Nat) (v : α) : Nat → α := fun j => if j = i then v else f j
@[simp] theorem upd_self {α : Type} (f : Nat → α) (i : Nat) (v : α) : upd f i v i = v := by simp [upd]
theorem upd_other {α : Type} {f : Nat → α} {i j : Nat} {v : α} (h : j ≠ i) : upd f i v j = f j := by simp [upd, h]
theorem upd_apply {α : Type} (f : Nat → α) (i : Nat) (v : α) (j : Nat) : upd f i v j = if j = i then v else f j := rfl

inductive Step : St → St → Prop
  | wLock (s : St) (g : Nat) : g ≤ s.cur → s.lock g = false →
      Step s { s with lock := upd s.lock g true, locked := upd s.locked g (s.locked g + 1) }
  | wCheck1 (s : St) (g : Nat) : 0 < s.locked g → s.resizing = false →
      Step s { s with locked := upd s.locked g (s.locked g - 1), c1 := upd s.c1 g (s.c1 g + 1) }
  | wRetreat0 (s : St) (g : Nat) : 0 < s.locked g → s.resizing = true →
      Step s { s with locked := upd s.locked g (s.locked g - 1), lock := upd s.lock g false }
  | wCheck2 (s : St) (g : Nat) : 0 < s.c1 g → g = s.cur →
      Step s { s with c1 := upd s.c1 g (s.c1 g - 1), passed := upd s.passed g (s.passed g + 1) }
  | wRetreat1 (s : St) (g : Nat) : 0 < s.c1 g → g ≠ s.cur →
      Step s { s with c1 := upd s.c1 g (s.c1 g - 1), lock := upd s.lock g false }
  | wApply (s : St) (g : Nat) (v : Option Nat) : 0 < s.passed g →
      Step s { s with passed := upd s.passed g (s.passed g - 1), lock := upd s.lock g false,
                      content := upd s.content g v, abs := v }
  | rStart (s : St) : s.resizing = false →
      Step s { s with resizing := true, copied := false, published := false }
  | rCopy (s : St) : s.resizing = true → s.copied = false → s.published = false → s.lock s.cur = false →
      Step s { s with copied := true, content := upd s.content (s.cur + 1) (s.content s.cur) }
  | rPublish (s : St) : s.resizing = true → s.copied = true → s.published = false →
      Step s { s with cur := s.cur + 1, published := true, copied := false }
  | rDone (s : St) : s.resizing = true → s.published = true →
      Step s { s with resizing := false, published := false }
  | rGiveUp (s : St) : s.resizing = true → s.copied = false → s.published = false →
      Step s { s with resizing := false }

inductive Reach : St → Prop
  | init : Reach {}
  | step {s s' : St} : Reach s → Step s s' → Reach s'

/-- the invariant, over the components: a `show` with the components after a step presents every clause with the record
    projections reduced, as `omega` needs them -/
structure InvC (cur : Nat) (resizing copied published : Bool) (lock : Nat → Bool) (c1 passed locked : Nat → Nat)
    (content : Nat → Option Nat) (abs : Option Nat) : Prop where
  /-- no completed write is lost: the current table holds the specification's value -/
  val : abs = content cur
  /-- the copy is faithful until it is published -/
  cp : copied = true → content (cur + 1) = content cur
  /-- a writer past a check holds its bucket's mutex; at most one writer holds it -/
  own : ∀ g, locked g + c1 g + passed g = (if lock g then 1 else 0)
  /-- a writer that passed both checks works on the current table -/
  pc : ∀ g, 0 < passed g → g = cur
  /-- once the bucket is copied (or the new table published but the flag still set) no writer is past the flag check on
      the current table -/
  quiet : (copied = true ∨ published = true) → c1 cur = 0 ∧ passed cur = 0 ∧ resizing = true
  /-- tables beyond the current one are untouched by writers -/
  fut : ∀ g, cur < g → lock g = false
  excl : published = true → copied = false

def Inv (s : St) : Prop :=
  InvC s.cur s.resizing s.copied s.published s.lock s.c1 s.passed s.locked s.content s.abs

theorem inv_init : Inv {} :=
  ⟨rfl, nofun, fun _ => rfl, fun _ h => absurd h (Nat.lt_irrefl 0), fun h => h.elim nofun nofun, fun _ _ => rfl, nofun⟩

theorem fut_unlock {lock : Nat → Bool} {cur : Nat} (h : ∀ g, cur < g → lock g = false) (g : Nat) :
    ∀ j, cur < j → upd lock g false j = false := fun j hj => by
  rw [upd_apply]
  split
  · rfl
  · exact h j hj

/-- In every writer step one writer of lock `g` moves to its next stage, or in or out of the lock: clause `own` again holds at `g`
    by the arithmetic of that move (`grind` splits `upd`), and at the other locks as before. -/
theorem inv_step {s s' : St} (hi : Inv s) (hs : Step s s') : Inv s' := by
  cases hs with
  | wLock g hg hl =>
    show InvC s.cur s.resizing s.copied s.published (upd s.lock g true) s.c1 s.passed (upd s.locked g (s.locked g + 1)) s.content s.abs
    exact { hi with
      own := fun j => by have := hi.own j; grind [upd]
      fut := fun j hj => (upd_other (by omega)).trans (hi.fut j hj) }
  | wCheck1 g hl hr =>
    show InvC s.cur s.resizing s.copied s.published s.lock (upd s.c1 g (s.c1 g + 1)) s.passed (upd s.locked g (s.locked g - 1)) s.content s.abs
    exact { hi with
      own := fun j => by have := hi.own j; grind [upd]
      quiet := fun h => nomatch hr.symm.trans (hi.quiet h).2.2 }
  | wRetreat0 g hl hr =>
    show InvC s.cur s.resizing s.copied s.published (upd s.lock g false) s.c1 s.passed (upd s.locked g (s.locked g - 1)) s.content s.abs
    exact { hi with own := fun j => by have := hi.own j; grind [upd], fut := fut_unlock hi.fut g }
  | wCheck2 g hc he =>
    show InvC s.cur s.resizing s.copied s.published s.lock (upd s.c1 g (s.c1 g - 1)) (upd s.passed g (s.passed g + 1)) s.locked s.content s.abs
    exact { hi with
      own := fun j => by have := hi.own j; grind [upd]
      pc := fun j hj => by have := hi.pc j; grind [upd]
      quiet := fun h => by have := (hi.quiet h).1; rw [← he] at this; omega }
  | wRetreat1 g hc hne =>
    show InvC s.cur s.resizing s.copied s.published (upd s.lock g false) (upd s.c1 g (s.c1 g - 1)) s.passed s.locked s.content s.abs
    exact { hi with
      own := fun j => by have := hi.own j; grind [upd]
      quiet := fun h => (upd_other (Ne.symm hne)).symm ▸ hi.quiet h
      fut := fut_unlock hi.fut g }
  | wApply g v hp =>
    show InvC s.cur s.resizing s.copied s.published (upd s.lock g false) s.c1 (upd s.passed g (s.passed g - 1)) s.locked (upd s.content g v) v
    have he : g = s.cur := hi.pc g hp
    -- a writer past both checks excludes a copy in progress
    have hnq : ¬ (s.copied = true ∨ s.published = true) := fun h => by have := (hi.quiet h).2.1; rw [← he] at this; omega
    exact {
      val := he ▸ (upd_self ..).symm
      cp := fun h => absurd (Or.inl h) hnq
      own := fun j => by have := hi.own j; grind [upd]
      pc := fun j hj => by have := hi.pc j; grind [upd]
      quiet := fun h => absurd h hnq
      fut := fut_unlock hi.fut g
      excl := hi.excl }
  | rStart hr =>
    exact { hi with cp := nofun, quiet := fun h => h.elim nofun nofun, excl := nofun }
  | rCopy hr hc hpb hl =>
    show InvC s.cur s.resizing true s.published s.lock s.c1 s.passed s.locked (upd s.content (s.cur + 1) (s.content s.cur)) s.abs
    -- the bucket is unlocked: no writer is inside it
    have hg : s.locked s.cur + s.c1 s.cur + s.passed s.cur = 0 := by rw [hi.own, hl]; rfl
    have hne : s.cur ≠ s.cur + 1 := by omega
    exact { hi with
      val := hi.val.trans (upd_other hne).symm
      cp := fun _ => (upd_self ..).trans (upd_other hne).symm
      quiet := fun _ => ⟨by omega, by omega, hr⟩
      excl := fun h => nomatch hpb.symm.trans h }
  | rPublish hr hc hpb =>
    show InvC (s.cur + 1) s.resizing false true s.lock s.c1 s.passed s.locked s.content s.abs
    -- the new table is not locked yet: no writer is inside its bucket
    have hg : s.locked (s.cur + 1) + s.c1 (s.cur + 1) + s.passed (s.cur + 1) = 0 := by
      rw [hi.own, hi.fut (s.cur + 1) (Nat.lt_succ_self _)]; rfl
    exact { hi with
      val := hi.val.trans (hi.cp hc).symm
      cp := nofun
      pc := fun j hj => by rw [hi.pc j hj] at hj; have := (hi.quiet (.inl hc)).2.1; omega
      quiet := fun _ => ⟨by omega, by omega, hr⟩
      fut := fun j hj => hi.fut j (by omega)
      excl := fun _ => rfl }
  | rDone hr hpb =>
    have hc : s.copied = false := hi.excl hpb
    exact { hi with
      cp := fun h => nomatch hc.symm.trans h
      quiet := fun h => h.elim (fun h => nomatch hc.symm.trans h) nofun
      excl := nofun }
  | rGiveUp hr hc hpb =>
    exact { hi with quiet := fun h => h.elim (fun h => nomatch hc.symm.trans h) fun h => nomatch hpb.symm.trans h }

theorem reach_inv {s : St} (h : Reach s) : Inv s := by
  induction h with
  | init => exact inv_init
  | step _ hs ih => exact inv_step ih hs

end OtterVerif.Conc.Resize
