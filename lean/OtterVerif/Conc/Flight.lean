/-
  Conc.Flight — interleaving model of the single-flight protocol for ONE key with an unbounded number of callers, writers
  and call objects (singleflight.go startCall / deleteCall / delete, cache.afterDeleteCall, call.wait / cancel).

  Atomic steps (the call table's bucket lock makes each `calls.Compute` one step; the fast-path `getCall` is one atomic load;
  the WaitGroup of a call object is released by `cancel`, which afterDeleteCall executes AFTER the hashmap critical section in
  which deleteCall ran):
    join        a caller finds call object i registered (fast path, or the double check inside Compute) and will wait on it
    create      a caller finds no registered call: registers a fresh object and becomes its leader (shouldLoad = true)
    unregister  the leader of i has left the loader (value, error, not-found or panic — the deferred afterFinish runs in every
                case) and executes deleteCall: compare-and-delete of i; its result is written into the cache in the same
                critical section if and only if the compare succeeded (afterDeleteCall: isCorrectCall)
    cancel      the leader of i releases the waiters of i
    kill        a Set / Invalidate / eviction runs group.delete: whatever is registered is removed (the object is "orphaned")
    resume      a waiter of a released object returns
  The loader runs while the object's phase is `loading`.
-/
namespace OtterVerif.Conc.Flight

inductive Phase where
  | fresh | loading | finishing | done
  deriving DecidableEq, Repr

structure St where
  cur : Option Nat := none           -- the call object registered in the table
  phase : Nat → Phase := fun _ => .fresh
  orphaned : Nat → Bool := fun _ => false
  waiting : Nat → Nat := fun _ => 0
  next : Nat := 0                     -- next unused object id
  installed : Nat → Bool := fun _ => false   -- the result of call object i was written into the cache

def upd {α : Type} (f : Nat → α) (i : Nat) (v : α) : Nat → α := fun j => if j = i then v else f j

@[simp] theorem upd_self {α : Type} (f : Nat → α) (i : Nat) (v : α) : upd f i v i = v := by simp [upd]
theorem upd_other {α : Type} {f : Nat → α} {i j : Nat} {v : α} (h : j ≠ i) : upd f i v j = f j := by simp [upd, h]

inductive Step : St → St → Prop
  | join (s : St) (i : Nat) : s.cur = some i →
      Step s { s with waiting := upd s.waiting i (s.waiting i + 1) }
  | create (s : St) : s.cur = none →
      Step s { s with cur := some s.next, phase := upd s.phase s.next .loading, next := s.next + 1 }
  | unregister (s : St) (i : Nat) : s.phase i = .loading →
      Step s { s with cur := if s.cur = some i then none else s.cur, phase := upd s.phase i .finishing,
                      installed := if s.cur = some i then upd s.installed i true else s.installed }
  | cancel (s : St) (i : Nat) : s.phase i = .finishing →
      Step s { s with phase := upd s.phase i .done }
  | kill (s : St) :
      Step s { s with cur := none, orphaned := match s.cur with | some i => upd s.orphaned i true | none => s.orphaned }
  | resume (s : St) (i : Nat) : s.phase i = .done → 0 < s.waiting i →
      Step s { s with waiting := upd s.waiting i (s.waiting i - 1) }

inductive Reach : St → Prop
  | init : Reach {}
  | step {s s' : St} : Reach s → Step s s' → Reach s'

structure Inv (s : St) : Prop where
  /-- unused object ids are untouched -/
  fresh : ∀ i, s.next ≤ i → s.phase i = .fresh ∧ s.orphaned i = false
  /-- the registered object is being loaded by its leader, and no writer has removed it -/
  reg : ∀ i, s.cur = some i → s.phase i = .loading ∧ s.orphaned i = false
  /-- a loading object that no writer removed is the registered one -/
  own : ∀ i, s.phase i = .loading → s.orphaned i = false → s.cur = some i
  /-- callers wait only on objects that exist -/
  wait : ∀ i, 0 < s.waiting i → s.phase i ≠ .fresh
  /-- a call whose record a write / invalidation / eviction removed never writes its result, and only finished loads do (C09) -/
  inst : ∀ i, s.installed i = true → s.orphaned i = false ∧ s.phase i ≠ .loading ∧ s.phase i ≠ .fresh

theorem inv_step {s s' : St} (hi : Inv s) (hs : Step s s') : Inv s' := by
  cases hs with
  | join i hc =>
    have := hi.reg i hc
    exact { hi with wait := fun j hj => by have := hi.wait j; grind [upd] }
  | create hc =>
    have hfr := hi.fresh s.next (Nat.le_refl _)
    exact {
      fresh := fun j hj => by have := hi.fresh j (Nat.le_of_succ_le hj); grind [upd]
      reg := by rintro _ ⟨⟩; exact ⟨upd_self .., hfr.2⟩
      -- no other object is loading unorphaned: it would be the registered one, and none is
      own := fun j hj ho => by have := hi.own j; grind [upd]
      wait := fun j hj => by have := hi.wait j hj; grind [upd]
      inst := fun j hj => by have := hi.inst j hj; grind [upd] }
  | unregister i hp =>
    exact {
      fresh := fun j hj => by have := hi.fresh j hj; grind [upd]
      -- whatever the table holds afterwards it held before, and it is not i
      reg := fun j hj => by have := hi.reg j; grind [upd]
      own := fun j hj ho => by have := hi.own j; grind [upd]
      wait := fun j hj => by have := hi.wait j hj; grind [upd]
      -- i's result is written only if i is still registered, hence not orphaned
      inst := fun j hj => by have := hi.inst j; have := hi.reg j; grind [upd] }
  | cancel i hp =>
    exact {
      fresh := fun j hj => by have := hi.fresh j hj; grind [upd]
      reg := fun j hj => by have := hi.reg j hj; grind [upd]
      own := fun j hj ho => by have := hi.own j; grind [upd]
      wait := fun j hj => by have := hi.wait j hj; grind [upd]
      inst := fun j hj => by have := hi.inst j hj; grind [upd] }
  | kill =>
    cases hc : s.cur with
    | none => exact { hi with reg := nofun, own := fun j hj ho => hc.symm.trans (hi.own j hj ho) }
    | some i =>
      have := hi.reg i hc
      exact { hi with
        fresh := fun j hj => by have := hi.fresh j hj; grind [upd]
        reg := nofun
        own := fun j hj ho => by have := hi.own j hj; grind [upd]
        inst := fun j hj => by have := hi.inst j hj; have := hi.reg j; grind [upd] }
  | resume i hp hw =>
    exact { hi with wait := fun j hj => by have := hi.wait j; grind [upd] }

theorem reach_inv {s : St} (h : Reach s) : Inv s := by
  induction h with
  | init => exact ⟨fun _ _ => ⟨rfl, rfl⟩, nofun, nofun, fun _ h => absurd h (Nat.lt_irrefl 0), nofun⟩
  | step _ hs ih => exact inv_step ih hs

end OtterVerif.Conc.Flight
