/-
  Conc.Adder — interleaving model of internal/xsync/adder.go (the striped counter behind stats.Counter).

  n stripes, each an atomic word.  Atomic steps:
    add i d       a successful CompareAndSwap on stripe i adds d (a failed one changes nothing and is retried on another
                  stripe: no step); `total` is the ghost sum of everything added so far
    rStart r      reader r starts Value(): position 0, accumulator 0; the ghost `lo r` records the total at that instant
    rRead r       reader r loads the stripe at its position and adds it to its accumulator
    (the reader has finished when its position is n; its accumulator is the result)

  `Props.C20Conc.c20_conc_value_between`: the result of a Value() that overlaps any number of Adds lies between the total when it started and
  the total when it finished; so every count it misses belongs to an Add that had not returned when Value() started, and with
  no Add in progress the result is exact.  Counters are naturals: wrap-around of the 64-bit words is out of scope.
-/
namespace OtterVerif.Conc.Adder

def upd {α : Type} (f : Nat → α) (i : Nat) (v : α) : Nat → α := fun j => if j = i then v else f j
@[simp] theorem upd_self {α : Type} (f : Nat → α) (i : Nat) (v : α) : upd f i v i = v := by simp [upd]
theorem upd_other {α : Type} {f : Nat → α} {i j : Nat} {v : α} (h : j ≠ i) : upd f i v j = f j := by simp [upd, h]
theorem upd_apply {α : Type} (f : Nat → α) (i : Nat) (v : α) (j : Nat) : upd f i v j = if j = i then v else f j := rfl

def sumTo (f : Nat → Nat) : Nat → Nat
  | 0 => 0
  | n + 1 => sumTo f n + f n

structure St where
  stripe : Nat → Nat := fun _ => 0
  total : Nat := 0                                   -- ghost: everything added so far
  rd : Nat → Option (Nat × Nat) := fun _ => none     -- reader ↦ (position, accumulator)
  lo : Nat → Nat := fun _ => 0                       -- ghost: total when the reader started

inductive Step (n : Nat) : St → St → Prop
  | add (s : St) (i d : Nat) : i < n →
      Step n s { s with stripe := upd s.stripe i (s.stripe i + d), total := s.total + d }
  | rStart (s : St) (r : Nat) : s.rd r = none →
      Step n s { s with rd := upd s.rd r (some (0, 0)), lo := upd s.lo r s.total }
  | rRead (s : St) (r p acc : Nat) : s.rd r = some (p, acc) → p < n →
      Step n s { s with rd := upd s.rd r (some (p + 1, acc + s.stripe p)) }

inductive Reach (n : Nat) : St → Prop
  | init : Reach n {}
  | step {s s' : St} : Reach n s → Step n s s' → Reach n s'

theorem sumTo_upd (f : Nat → Nat) (i d n : Nat) :
    sumTo (upd f i (f i + d)) n = sumTo f n + (if i < n then d else 0) := by
  induction n with
  | zero => rfl
  | succ n ih => grind [sumTo, upd]

structure Inv (n : Nat) (s : St) : Prop where
  tot : s.total = sumTo s.stripe n
  /-- a reader at position p: what it has read plus what is still to be read (at its current value) is at least the total
      at its start, and what it has read is at most what the stripes read hold now -/
  rd : ∀ r p acc, s.rd r = some (p, acc) →
    s.lo r + sumTo s.stripe p ≤ acc + sumTo s.stripe n ∧ acc ≤ sumTo s.stripe p

theorem inv_step {n : Nat} {s s' : St} (hi : Inv n s) (h : Step n s s') : Inv n s' := by
  obtain ⟨tot, rd⟩ := hi
  cases h with
  | add i d hin =>
    refine ⟨?_, fun r p acc hr => ?_⟩ <;> simp only [sumTo_upd, if_pos hin]
    · omega
    · have := rd r p acc hr
      split <;> omega
  | rStart r hr0 =>
    refine ⟨tot, fun r' p acc hr => ?_⟩
    simp only [upd_apply] at hr ⊢
    split at hr
    next e => cases hr; simp only [if_pos e, sumTo]; omega
    next e => rw [if_neg e]; exact rd r' p acc hr
  | rRead r p acc hr0 hp =>
    refine ⟨tot, fun r' p' acc' hr => ?_⟩
    simp only [upd_apply] at hr
    split at hr
    next e =>
      cases hr
      subst e
      have := rd r' p acc hr0
      simp only [sumTo]
      omega
    next => exact rd r' p' acc' hr

theorem reach_inv {n : Nat} {s : St} (h : Reach n s) : Inv n s := by
  induction h with
  | init =>
    refine ⟨?_, nofun⟩
    show 0 = sumTo (fun _ => 0) n
    induction n with
    | zero => rfl
    | succ n ih => rw [sumTo, ← ih]
  | step _ hst ih => exact inv_step ih hst

theorem lo_le_total {n : Nat} {s : St} (h : Reach n s) {r p acc : Nat} (hr : s.rd r = some (p, acc)) : s.lo r ≤ s.total := by
  have hi := reach_inv h
  have := hi.rd r p acc hr
  rw [hi.tot]; omega

end OtterVerif.Conc.Adder
