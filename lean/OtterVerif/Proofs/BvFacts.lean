/-
  Proofs.BvFacts — BitVec operations on variables read as naturals / integers: what the comparisons of the hand-written
  models with the regenerated Go arithmetic (Proofs/*Gen, Props/C*) share.  Core has the no-overflow forms already
  (`BitVec.toNat_add_of_lt`, `toNat_mul_of_lt`, `toNat_sub_of_le`, `ult_eq_decide`, `ule_eq_decide`).
-/
import OtterVerif.Basic

namespace OtterVerif.Bv

/-! ### masks -/

theorem toNat_and_le {w : Nat} (x m : BitVec w) : (x &&& m).toNat ≤ m.toNat := by
  rw [BitVec.toNat_and]; exact Nat.and_le_right

theorem toNat_and_mask {w : Nat} (x m : BitVec w) (k : Nat) (hm : m.toNat = 2 ^ k - 1) :
    (x &&& m).toNat = x.toNat % 2 ^ k := by
  rw [BitVec.toNat_and, hm, Nat.and_two_pow_sub_one_eq_mod]

theorem toNat_sub_one {w : Nat} (x : BitVec w) (h : 0 < x.toNat) : (x - 1#w).toNat = x.toNat - 1 := by
  have hw : 0 < w := Nat.pos_of_ne_zero (fun h0 => by subst h0; have := x.isLt; omega)
  rw [BitVec.toNat_sub_of_le (BitVec.le_def.2 (by rw [BitVec.toNat_one hw]; exact h)), BitVec.toNat_one hw]

/-- `x & (n - 1)` is `x mod n` for `n` a power of two: Go's index into a table of such a length -/
theorem toNat_and_pred {w : Nat} (x n : BitVec w) (k : Nat) (hn : n.toNat = 2 ^ k) :
    (x &&& (n - 1#w)).toNat = x.toNat % 2 ^ k :=
  toNat_and_mask x _ k (by rw [toNat_sub_one n (by rw [hn]; exact Nat.pow_pos (by decide)), hn])

theorem toNat_and_pred_lt {w : Nat} (x n : BitVec w) (hn : 0 < n.toNat) : (x &&& (n - 1#w)).toNat < n.toNat := by
  have := toNat_and_le x (n - 1#w)
  rw [toNat_sub_one n hn] at this
  omega

/-- doubling a power of two that is below another power of two stays within it (table and chunk growth) -/
theorem two_mul_two_pow_le {a b : Nat} (h : 2 ^ a < 2 ^ b) : 2 * 2 ^ a ≤ 2 ^ b :=
  calc 2 * 2 ^ a = 2 ^ (a + 1) := by rw [Nat.pow_succ, Nat.mul_comm]
    _ ≤ 2 ^ b := Nat.pow_le_pow_right (by decide) ((Nat.pow_lt_pow_iff_right (by decide)).1 h)

/-! ### arithmetic without wrap -/

theorem toNat_ofNat_lt {w : Nat} (i : Nat) (h : i < 2 ^ w) : (BitVec.ofNat w i).toNat = i := by
  rw [BitVec.toNat_ofNat, Nat.mod_eq_of_lt h]

theorem toNat_add_one {w : Nat} (x : BitVec w) (h : x.toNat + 1 < 2 ^ w) : (x + 1#w).toNat = x.toNat + 1 := by
  have h1 : (1#w).toNat = 1 := BitVec.toNat_one (Nat.pos_of_ne_zero (fun h0 => by subst h0; omega))
  rw [BitVec.toNat_add_of_lt (by rw [h1]; exact h), h1]

theorem toNat_shiftLeft_of_lt {w : Nat} (x : BitVec w) (k : Nat) (h : x.toNat * 2 ^ k < 2 ^ w) :
    (x <<< k).toNat = x.toNat * 2 ^ k := by
  rw [BitVec.toNat_shiftLeft, Nat.shiftLeft_eq, Nat.mod_eq_of_lt h]

/-- signed division of non-negative values (Go `int` quantities) is division of naturals -/
theorem toNat_sdiv_nonneg {w : Nat} (x y : BitVec w) (hx : 2 * x.toNat < 2 ^ w) (hy : 2 * y.toNat < 2 ^ w) :
    (x.sdiv y).toNat = x.toNat / y.toNat := by
  rw [BitVec.sdiv_eq, BitVec.msb_eq_false_iff_two_mul_lt.2 hx, BitVec.msb_eq_false_iff_two_mul_lt.2 hy]
  exact BitVec.toNat_udiv

/-! ### wrap-around subtraction -/

theorem toNat_sub_wrap {w : Nat} (a b : BitVec w) : (a - b).toNat = (a.toNat + 2 ^ w - b.toNat) % 2 ^ w := by
  rw [BitVec.toNat_sub', Nat.add_sub_assoc (Nat.le_of_lt b.isLt)]

/-! ### signed wrap -/

/-- `wrapS` (the int64 operations of the `Gen` modules over `Int`, `Impl.Table.durationTo`) is core's balanced remainder, in
    which core states `BitVec.toInt` of `+`, `-` and `ofInt`; only width 64 occurs -/
theorem wrapS_64_eq_bmod (x : Int) : wrapS 64 x = x.bmod (2 ^ 64) := by
  refine ((Int.bmod_eq_iff (by decide)).2 ?_).symm
  unfold wrapS
  omega

/-! ### comparisons -/

/-- signed `<` on values below 2^(w-1) (Go `int` loop counters and lengths) is `<` on naturals -/
theorem slt_eq_decide_toNat {w : Nat} (x y : BitVec w) (hx : 2 * x.toNat < 2 ^ w) (hy : 2 * y.toNat < 2 ^ w) :
    BitVec.slt x y = decide (x.toNat < y.toNat) := by
  rw [BitVec.slt_eq_decide, BitVec.toInt_eq_toNat_of_lt hx, BitVec.toInt_eq_toNat_of_lt hy]
  simp only [Int.ofNat_lt]

/-- a Go `int` loop counter `i` against a bound -/
theorem slt_ofNat {w : Nat} (i : Nat) (y : BitVec w) (hi : 2 * i < 2 ^ w) (hy : 2 * y.toNat < 2 ^ w) :
    BitVec.slt (BitVec.ofNat w i) y = decide (i < y.toNat) := by
  have e := toNat_ofNat_lt (w := w) i (by omega)
  rw [slt_eq_decide_toNat _ _ (by omega) hy, e]

theorem beq_zero {w : Nat} (a : BitVec w) : (a == 0#w) = (a.toNat == 0) := by
  rw [Bool.eq_iff_iff, beq_iff_eq, beq_iff_eq, ← BitVec.toNat_inj, BitVec.toNat_zero]

theorem ule_zero {w : Nat} (a : BitVec w) : BitVec.ule a 0#w = (a == 0#w) := by
  rw [beq_zero, BitVec.ule_eq_decide, BitVec.toNat_zero, Bool.eq_iff_iff, decide_eq_true_iff, beq_iff_eq, Nat.le_zero]

/-! ### min and max -/

theorem toNat_umin {w : Nat} (a b : BitVec w) : (umin a b).toNat = min a.toNat b.toNat := by
  unfold umin
  simp only [BitVec.ult_eq_decide, decide_eq_true_eq]
  split <;> omega

theorem toNat_smin {w : Nat} (a b : BitVec w) (ha : 2 * a.toNat < 2 ^ w) (hb : 2 * b.toNat < 2 ^ w) :
    (smin a b).toNat = min a.toNat b.toNat := by
  unfold smin
  simp only [slt_eq_decide_toNat b a hb ha, decide_eq_true_eq]
  split <;> omega

theorem toNat_smax {w : Nat} (a b : BitVec w) (ha : 2 * a.toNat < 2 ^ w) (hb : 2 * b.toNat < 2 ^ w) :
    (smax a b).toNat = max a.toNat b.toNat := by
  unfold smax
  simp only [slt_eq_decide_toNat a b ha hb, decide_eq_true_eq]
  split <;> omega

theorem toInt_smax {w : Nat} (a b : BitVec w) : (smax a b).toInt = max a.toInt b.toInt := by
  unfold smax
  simp only [BitVec.slt_eq_decide, decide_eq_true_eq]
  split <;> omega

/-! ### tables -/

/-- an in-range element of a package-level table, read through the table of naturals the model uses (`tbl` is a table of
    64-bit words indexed by a 64-bit word, so this lemma is not general in the width) -/
theorem toNat_tbl (l : List (BitVec 64)) (i d : Nat) (hi : i < l.length) (hl : l.length < 2 ^ 64) :
    (tbl l (BitVec.ofNat 64 i)).toNat = (l.map BitVec.toNat).getD i d := by
  unfold tbl
  rw [toNat_ofNat_lt i (by omega), List.getD_eq_getElem?_getD, List.getD_eq_getElem?_getD, List.getElem?_map,
    List.getElem?_eq_getElem hi]
  rfl

end OtterVerif.Bv
