/-
  Proofs.TableConserve — C06's conservation law on Impl.Table, for every history:

      values written  =  values present  +  values reported          (each reported exactly once, at its removal)

  "written" is read off the API's own answers: a Set installs a value, a SetIfAbsent does iff it answers ok = true, a Compute
  whose function answered WriteOp does; nothing else installs anything.  "reported" are the atomic deletion events the steps
  return (replacement, invalidation, the removal of an expired entry by a cancelled Compute, automatic removals).  The
  induction carries `NodupKeys` (one node per key — the table is a map), shown to be preserved by every step.
-/
import OtterVerif.Proofs.TableEvict

namespace OtterVerif.Proofs.TableConserve
open OtterVerif OtterVerif.Impl.Table OtterVerif.Proofs.TableRefine OtterVerif.Proofs.TableTrace OtterVerif.Proofs.TableEvict
open OtterVerif.Spec (Cause Event Out Entry Cfg Kind)

def NodupKeys (t : Tbl) : Prop := (t.map (·.1)).Nodup

theorem nodup_nil : NodupKeys [] := List.nodup_nil

theorem nodup_unlink (t : Tbl) (k : Nat) (h : NodupKeys t) : NodupKeys (unlink t k) := nodup_keys_filter _ h

theorem nodup_store (t : Tbl) (k : Nat) (n : TNode) (h : NodupKeys t) : NodupKeys (store t k n) :=
  List.nodup_cons.mpr ⟨not_mem_keys_filter t k, nodup_unlink t k h⟩

theorem unlink_absent (t : Tbl) (k : Nat) (h : k ∉ t.map (·.1)) : unlink t k = t := filter_key_absent h

theorem length_unlink (t : Tbl) (k : Nat) (h : NodupKeys t) :
    (unlink t k).length + (if (lookup t k).isSome then 1 else 0) = t.length := by
  have hp := (perm_key_split h k).length_eq
  rw [List.length_append] at hp
  unfold lookup unlink
  cases hf : t.find? (fun p => p.1 == k) <;> rw [hf] at hp <;> exact hp

theorem length_store (t : Tbl) (k : Nat) (n : TNode) : (store t k n).length = (unlink t k).length + 1 := rfl

/-- how many values a step installs, read off the operation and its own answer -/
def installs : XOp → Out → Nat
  | .base (.set _ _), _ => 1
  | .base (.setIfAbsent _ _), .valOk _ true => 1
  | .base (.compute _ (.write _)), _ => 1
  | _, _ => 0

theorem atomicSet_events (c : TCfg) (k v : Nat) (old : Option TNode) (now : Int) (kd : RefKind) :
    (atomicSet c k v old now kd).2.length = (if old.isSome then 1 else 0) := by
  unfold atomicSet
  cases old <;> rfl

theorem eff_nodup {cfg : TCfg} {now : Int} {t t' : Tbl} {evs : List Event} {n : Nat} (e : Eff cfg now t t' evs n)
    (h : NodupKeys t) : NodupKeys t' := by
  cases e <;> first | exact h | exact nodup_unlink _ _ h | exact nodup_store _ _ _ h

/-- present + reported grows by what was installed: a stored node takes the place of the mapped one, which is reported
    exactly when a value is installed over it -/
theorem eff_length {cfg : TCfg} {now : Int} {t t' : Tbl} {evs : List Event} {n : Nat} (e : Eff cfg now t t' evs n)
    (h : NodupKeys t) : t'.length + evs.length = t.length + n := by
  have hlen := fun k => length_unlink t k h
  cases e with
  | same => rfl
  | install k v kd => have := hlen k; rw [length_store, atomicSet_events]; omega
  | @delete k _ hl ev => have := hlen k; rw [hl] at this; simpa using this
  | @read k _ hl | @setExp k _ hl d | @setRef k _ hl d hd => have := hlen k; rw [hl] at this; rw [length_store]; simpa using this

theorem eff_report_le {cfg : TCfg} {now : Int} {t t' : Tbl} {evs : List Event} {n : Nat} (e : Eff cfg now t t' evs n) :
    evs.length ≤ 1 := by
  cases e <;> first | exact Nat.zero_le _ | exact Nat.le_refl _ | (rw [atomicSet_events]; split <;> omega)

theorem installs_base (o : Op) (out : Out) : installs (.base o) out = (match o, out with
    | .set _ _, _ => 1 | .setIfAbsent _ _, .valOk _ true => 1 | .compute _ (.write _), _ => 1 | _, _ => 0) := by
  cases o with
  | setIfAbsent k v => cases out with
    | valOk x b => cases b <;> rfl
    | _ => rfl
  | compute k act => cases act <;> rfl
  | _ => rfl

theorem xistep_eff (c : Cfg) (s : IState) (op : XOp) :
    Eff (cfgOf c) s.now s.t (xistep c s op).1.t (xistep c s op).2.2 (installs op (xistep c s op).2.1) := by
  cases op with
  | evict k same => exact evictNode_eff (cfgOf c) s.t k same s.now
  | base o => rw [installs_base]; exact istep_eff c s o

theorem xistep_conserves (c : Cfg) (s : IState) (op : XOp) (h : NodupKeys s.t) :
    (xistep c s op).1.t.length + (xistep c s op).2.2.length = s.t.length + installs op (xistep c s op).2.1 ∧
    NodupKeys (xistep c s op).1.t :=
  ⟨eff_length (xistep_eff c s op) h, eff_nodup (xistep_eff c s op) h⟩

def totalInstalls : List XOp → List (Out × List Event) → Nat
  | op :: ops, r :: rs => installs op r.1 + totalInstalls ops rs
  | _, _ => 0

def totalEvents (rs : List (Out × List Event)) : Nat := (rs.map (·.2.length)).sum

/-- **conservation over every history** (automatic removals at arbitrary points included): what was present at the start
    plus what the operations installed is what is present at the end plus what was reported -/
theorem history_conserves (c : Cfg) (ops : List XOp) : ∀ (s : IState), NodupKeys s.t →
    (xirun c s ops).1.t.length + totalEvents (xirun c s ops).2 = s.t.length + totalInstalls ops (xirun c s ops).2 ∧
    NodupKeys (xirun c s ops).1.t :=
  RunSim.run_conserves (isRun_xirun c) (fun s => NodupKeys s.t) (fun s => s.t.length) (fun op r => installs op r.1)
    (fun r => r.2.length) (xistep_conserves c) rfl (fun _ _ _ _ => rfl) ops

end OtterVerif.Proofs.TableConserve
