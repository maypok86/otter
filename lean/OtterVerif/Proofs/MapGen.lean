/-
  Proofs.MapGen — the parallel table copy of hashmap.Map.resize covers every source bucket exactly once.

  Gen.MapSites is regenerated from internal/hashmap/map.go on every run; it contains the number of copy goroutines
  (`chunks := max(min(tableLen/64, GOMAXPROCS), 1)`), the chunk size, and the bounds handed to each goroutine
  (`c*chunkSize`, `min((c+1)*chunkSize, tableLen)`).  The theorem, Props.C15 `c15_gen_parallel_copy_covers`, is about THOSE
  definitions: for every table length and every processor count — in particular processor counts that do not divide the
  table length — every bucket index below tableLen lies in the range of exactly one goroutine.  (Rounding the chunk size
  down instead of up loses the last tableLen mod chunks buckets whenever chunks does not divide tableLen: `chunk_cover` fails.)
-/
import OtterVerif.Gen.MapSites
import OtterVerif.Proofs.BvFacts

namespace OtterVerif.Proofs.MapGen
open OtterVerif

/-! ### arithmetic on naturals -/

theorem ceil_mul_ge (n k : Nat) (hk : 0 < k) : n ≤ k * ((n + k - 1) / k) := by
  have h1 := Nat.div_add_mod (n + k - 1) k
  have h2 := Nat.mod_lt (n + k - 1) hk
  omega

/-- with the chunk size rounded UP, the ranges [c*s, min((c+1)*s, n)) for c < k cover [0, n) -/
theorem chunk_cover (n k : Nat) (hk : 0 < k) (i : Nat) (hi : i < n) :
    ∃ c, c < k ∧ c * ((n + k - 1) / k) ≤ i ∧ i < min ((c + 1) * ((n + k - 1) / k)) n := by
  have hs : 0 < (n + k - 1) / k := Nat.div_pos (by omega) hk
  refine ⟨i / ((n + k - 1) / k), ?_, Nat.div_mul_le_self i _, ?_⟩
  · have hge := ceil_mul_ge n k hk
    apply (Nat.div_lt_iff_lt_mul hs).2
    omega
  · have h := Nat.lt_mul_div_succ i hs
    rw [Nat.mul_comm] at h
    omega

theorem ceil_le (n k : Nat) (hk : 0 < k) (hn : 0 < n) : (n + k - 1) / k ≤ n := by
  apply Nat.div_le_of_le_mul
  obtain ⟨k', rfl⟩ := Nat.exists_eq_succ_of_ne_zero (Nat.ne_of_gt hk)
  have := Nat.le_mul_of_pos_right k' hn
  rw [Nat.succ_mul]
  omega

/-- the ranges are disjoint: a later goroutine starts where the previous one ended or after -/
theorem chunk_disjoint (n s c d : Nat) (h : c < d) : min ((c + 1) * s) n ≤ d * s := by
  have : (c + 1) * s ≤ d * s := Nat.mul_le_mul_right s h
  omega

/-! ### the generated definitions compute exactly that -/

/-- chunkSize := (tableLen + chunks - 1) / chunks, on naturals -/
theorem chunkSize_eq (chunks tableLen : BitVec 64) (hc : 0 < chunks.toNat) (hcb : chunks.toNat < 2 ^ 31) (hn : tableLen.toNat < 2 ^ 62) :
    (Gen.MapSites.Map_resize_a10 chunks tableLen).toNat = (tableLen.toNat + chunks.toNat - 1) / chunks.toNat := by
  unfold Gen.MapSites.Map_resize_a10
  have hadd : (tableLen + chunks).toNat = tableLen.toNat + chunks.toNat := BitVec.toNat_add_of_lt (by omega)
  have h1 : ((tableLen + chunks) - 1#64).toNat = tableLen.toNat + chunks.toNat - 1 := by
    rw [Bv.toNat_sub_one _ (by omega), hadd]
  rw [Bv.toNat_sdiv_nonneg _ _ (by omega) (by omega), h1]

/-- the bounds handed to copy goroutine `c` -/
theorem range_eq (c : Nat) (cs n : BitVec 64) (hc : c < 2 ^ 31) (hcs : cs.toNat < 2 ^ 31) (hn : n.toNat < 2 ^ 62) :
    (Gen.MapSites.Map_resize_g0_0 (BitVec.ofNat 64 c) cs).toNat = c * cs.toNat ∧
    (Gen.MapSites.Map_resize_g0_1 (BitVec.ofNat 64 c) cs n).toNat = min ((c + 1) * cs.toNat) n.toNat := by
  generalize hc' : BitVec.ofNat 64 c = c'
  obtain rfl : c = c'.toNat := by rw [← hc', Bv.toNat_ofNat_lt c (by omega)]
  unfold Gen.MapSites.Map_resize_g0_0 Gen.MapSites.Map_resize_g0_1
  have hm : (c'.toNat + 1) * cs.toNat ≤ 2 ^ 31 * 2 ^ 31 := Nat.mul_le_mul (Nat.succ_le_of_lt hc) (Nat.le_of_lt hcs)
  have h2 : ((c' + 1#64) * cs).toNat = (c'.toNat + 1) * cs.toNat := by
    rw [BitVec.toNat_mul_of_lt (by rw [Bv.toNat_add_one c' (by omega)]; omega), Bv.toNat_add_one c' (by omega)]
  rw [Nat.add_one_mul] at hm h2
  exact ⟨BitVec.toNat_mul_of_lt (by omega), by rw [Bv.toNat_smin _ _ (by omega) (by omega), h2, Nat.add_one_mul]⟩

/-- chunks := max(min(tableLen/64, GOMAXPROCS), 1), on naturals -/
theorem chunks_eq (procs tableLen : BitVec 64) (hp : procs.toNat < 2 ^ 31) (hn : tableLen.toNat < 2 ^ 62) :
    (Gen.MapSites.Map_resize_a9 (Gen.MapSites.Map_resize_a8 procs tableLen)).toNat = max (min (tableLen.toNat / 64) procs.toNat) 1 := by
  have hdiv : (BitVec.sdiv tableLen 64#64).toNat = tableLen.toNat / 64 :=
    Bv.toNat_sdiv_nonneg tableLen 64#64 (by omega) (by decide)
  have h8 : (Gen.MapSites.Map_resize_a8 procs tableLen).toNat = min (tableLen.toNat / 64) procs.toNat := by
    unfold Gen.MapSites.Map_resize_a8
    rw [Bv.toNat_smin _ _ (by omega) (by omega), hdiv]
  unfold Gen.MapSites.Map_resize_a9
  rw [Bv.toNat_smax _ _ (by omega) (by decide), h8]
  rfl

end OtterVerif.Proofs.MapGen
