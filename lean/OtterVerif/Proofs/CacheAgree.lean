/-
  Proofs.CacheAgree — the size policy's running total is the table's total weight: the composition policy ↔ table (part of
  the `Impl.Cache` of DESIGN 5.5) at quiescence, from a local agreement between the node records and the table.

  The policy side holds in every reachable state of Impl.Policy (Proofs.PolicyLink / PolicyWeight).  What connects it to the
  table is LOCAL: a node is `alive` exactly while it is the node mapped under its key (makeRetired is called in the very table
  computation that unlinks it, newNode creates it alive), and it carries the weight the weigher gave the entry.  `Agree` states
  just that, through the list of node identities of the mapped entries; from it the sums follow.  Its clauses `nodup` and
  `alive`, with reachability and quiescence, are an invariant of sequential histories: Proofs.CacheJoint.
-/
import OtterVerif.Proofs.PolicyWeight
import OtterVerif.Proofs.PolicyFuel
import OtterVerif.Proofs.TableRefine

namespace OtterVerif.Proofs.CacheAgree
open OtterVerif OtterVerif.Impl.Policy OtterVerif.Impl.Table

/-- the local agreement between the policy's node records and the table: `live` lists the node identity of every mapped
    entry, in table order -/
structure Agree (S : List Nat) (p : Policy) (t : Tbl) (live : List Nat) : Prop where
  /-- one identity per mapped entry -/
  nodup : live.Nodup
  /-- a node is alive (and its write event has been replayed) exactly while it is mapped -/
  alive : ∀ id, id ∈ live ↔ (id ∈ S ∧ (p.node id).st = .alive)
  /-- the node carries the entry's weight -/
  weights : live.map (fun id => (p.node id).weight) = t.map (fun e => e.2.weight)

/-- every removed node's delete event has been replayed: no introduced node is merely retired -/
def Quiescent (S : List Nat) (p : Policy) : Prop := ∀ id, id ∈ S → (p.node id).st ≠ .alive → (p.node id).st = .dead

theorem wsum_eq_ofNat (p : Policy) (l : List Nat) :
    wsum p l = BitVec.ofNat 64 ((l.map (fun id => (p.node id).weight)).sum) := by
  induction l with
  | nil => rfl
  | cons x rest ih =>
    show wt p x + wsum p rest = _
    rw [ih, List.map_cons, List.sum_cons, BitVec.ofNat_add]
    rfl

theorem totalWeight_abs (s : Spec.State) (t : Tbl) (hs : s.m = Proofs.TableRefine.absT t) :
    s.totalWeight = (t.map (fun e => e.2.weight)).sum := by
  unfold Spec.State.totalWeight
  rw [hs, ← List.sum_eq_foldl_nat]
  unfold Proofs.TableRefine.absT
  rw [List.map_map]
  rfl

theorem all_perm {S : List Nat} {p : Policy} {l : List Nat} (h : Reach S p) (hq : Quiescent S p) (hn : l.Nodup)
    (ha : ∀ id, id ∈ l ↔ (id ∈ S ∧ (p.node id).st = .alive)) : (all p).Perm l := by
  rw [List.perm_ext_iff_of_nodup (reach_inv h).c hn]
  intro id
  rw [ha id]
  exact (reach_inv h).linked_iff_alive_of_quiescent hq id

/-- **at quiescence the deques hold exactly the mapped entries' nodes** (as a permutation) -/
theorem linked_perm_live {S : List Nat} {p : Policy} {t : Tbl} {live : List Nat} (h : Reach S p) (hq : Quiescent S p)
    (ha : Agree S p t live) : (all p).Perm live :=
  all_perm h hq ha.nodup ha.alive

/-- **the policy's running total is the table's total weight** (uint64; exact when the total fits 64 bits) -/
theorem weightedSize_is_table_weight {S : List Nat} {p : Policy} {t : Tbl} {live : List Nat} (h : Reach S p)
    (hq : Quiescent S p) (ha : Agree S p t live) :
    p.weightedSize = BitVec.ofNat 64 ((t.map (fun e => e.2.weight)).sum) := by
  have hw : p.weightedSize = wsum p (all p) := reach_winv h
  rw [hw, wsum_perm p (linked_perm_live h hq ha), wsum_eq_ofNat, ha.weights]

end OtterVerif.Proofs.CacheAgree
