/-
  Proofs.TableRead — the observers of Impl.Table refine the spec's: GetEntryQuietly, GetEntry (the snapshot nodeToEntry
  builds) and the iteration filter of cache.nodes() (All / Keys / Values / entries).

  The snapshot shows "unreachable" for a deadline whose policy is off; the spec's entries carry maxI64 there.  That the
  table's nodes do too is the invariant `Unreach`, shown to be established by every write (atomicSet) and kept by every read.
-/
import OtterVerif.Proofs.TableTrace

namespace OtterVerif.Proofs.TableRead
open OtterVerif OtterVerif.Impl.Table OtterVerif.Proofs.TableRefine OtterVerif.Proofs.TableTrace
open OtterVerif.Spec (Cause Event Out Entry Cfg Kind)

/-- a policy that is off leaves its deadline unreachable -/
def Unreach (c : TCfg) (n : TNode) : Prop := (c.withExp = false → n.exp = maxI64) ∧ (c.withRef = false → n.ref = maxI64)

theorem unreach_atomicSet (c : TCfg) (k v : Nat) (old : Option TNode) (now : Int) (kd : RefKind) :
    Unreach c (atomicSet c k v old now kd).1 := by
  rw [atomicSet_fst]
  unfold newNode
  constructor <;> intro h <;> simp only [h, moved_off] <;> cases visiblePrev old now <;> rfl

theorem unreach_read (c : TCfg) (n : TNode) (now : Int) (h : Unreach c n) : Unreach c (calcExpiresAtAfterRead c n now) := by
  rw [calcRead_eq]
  exact ⟨fun hx => by simp only [hx, moved_off]; exact h.1 hx, h.2⟩

theorem nodeToEntry_abs (c : Cfg) (s : Spec.State) (n : TNode) (h : Unreach (cfgOf c) n) :
    nodeToEntry (cfgOf c) n s.now = ((absN n).val, (absN n).weight, (absN n).exp, (absN n).ref, Spec.snapshotAt c s) := by
  unfold nodeToEntry Spec.snapshotAt absN Cfg.withTime
  have h1 : (if (cfgOf c).withExp = true then n.exp else maxI64) = n.exp := by
    cases hx : (cfgOf c).withExp <;> simp [h.1, hx]
  have h2 : (if (cfgOf c).withRef = true then n.ref else maxI64) = n.ref := by
    cases hx : (cfgOf c).withRef <;> simp [h.2, hx]
  rw [h1, h2]
  rfl

/-- **GetEntryQuietly**: the snapshot of the live entry, or nothing; no state change on either side -/
theorem getEntryQuietly_refines (c : Cfg) (s : Spec.State) (t : Tbl) (k : Nat) (hs : s.m = absT t)
    (hu : ∀ o, lookup t k = some o → Unreach (cfgOf c) o) :
    getEntryQuietly (cfgOf c) t k s.now = Spec.getEntryQuietly c s k := by
  cases Slot.of_mapEq (MapEq.of_eq hs.symm) k with
  | absent hl hp hv => simp only [getEntryQuietly, Spec.getEntryQuietly, hl, hv]
  | expired o hl hx hp hv => simp only [getEntryQuietly, Spec.getEntryQuietly, hl, hx, hv, ↓reduceIte]
  | visible o hl hx hp hv =>
    simp only [getEntryQuietly, Spec.getEntryQuietly, hl, hx, hv, Bool.false_eq_true, ↓reduceIte, nodeToEntry_abs c s o (hu o hl)]

/-- **GetEntry**: the read's deadline is stored, the snapshot is taken of the node after the read -/
theorem getEntry_refines (c : Cfg) (s : Spec.State) (t : Tbl) (k : Nat) (hs : s.m = absT t)
    (hnow : -4611686018427387904 < s.now ∧ s.now < 4611686018427387904)
    (hwf : ∀ o, lookup t k = some o → NodeOk k o) (hu : ∀ o, lookup t k = some o → Unreach (cfgOf c) o) (hr : ReadOk c) :
    absT (getEntry (cfgOf c) t k s.now).1 = (Spec.getEntry c s k).1.m ∧
    (getEntry (cfgOf c) t k s.now).2 = (Spec.getEntry c s k).2 := by
  cases Slot.of_mapEq (MapEq.of_eq hs.symm) k with
  | absent hl hp hv => simp only [getEntry, Spec.getEntry, Spec.lookup_none hv, hl]; exact ⟨hs.symm, trivial⟩
  | expired o hl hx hp hv => simp only [getEntry, Spec.getEntry, Spec.lookup_none hv, hl, hx, ↓reduceIte]; exact ⟨hs.symm, trivial⟩
  | visible o hl hx hp hv =>
    obtain ⟨hkey, hmax, _, _⟩ := hwf o hl
    simp only [getEntry, Spec.getEntry, Spec.lookup_some hv, hl, hx, Bool.false_eq_true, ↓reduceIte,
      nodeToEntry_abs c s _ (unreach_read _ o s.now (hu o hl)), read_refines c k o s.now hnow hkey (hasExpired_false.mp hx) hmax hr]
    exact ⟨touch_sim MapRel.eq c (Spec.hit s) t k o hs.symm hnow hx (hwf o hl) hr, trivial⟩

/-! ### iteration -/

/-- cache.nodes(): the nodes handed to the consumer are those that have not expired at the clock value read for them (all at
    `now` here: one clock value per traversal step is the sequential case) -/
def liveNodes (t : Tbl) (now : Int) : Tbl := t.filter (fun p => !hasExpired p.2 now)

/-- **iteration yields exactly the spec's live entries** (before sorting), each physically present one once -/
theorem liveNodes_refines (s : Spec.State) (t : Tbl) (hs : s.m = absT t) :
    absT (liveNodes t s.now) = s.m.filter (fun p => p.2.liveAt s.now) := by
  rw [hs]
  unfold liveNodes absT
  rw [List.filter_map]
  congr 1
  apply List.filter_congr
  intro p _
  exact visible_iff_live p.2 s.now

theorem liveNodes_unexpired (t : Tbl) (now : Int) (p : Nat × TNode) (h : p ∈ liveNodes t now) : now < p.2.exp := by
  have := (List.mem_filter.mp h).2
  unfold hasExpired at this
  simpa using this

end OtterVerif.Proofs.TableRead
