/-
  Proofs.CacheAll — size policy, timer wheel and table in ONE joint state (the `Impl.Cache` of DESIGN 5.5, for single-goroutine
  use with a same-goroutine executor).  A step hands the write event to both policies (Impl.Maint.runTask / onAccess), the
  eviction pass runs, and the eviction callback unlinks every victim from the table AND from the timer wheel (cache.evictNode:
  policy.delete, expirationPolicy.Delete): `settle`, the common end of insert / replace / remove / read.  An expiry and a sweep
  remove the nodes the wheel handed to the callback, without a pass.  Shown: both joint invariants (Proofs.CacheJoint.JInv,
  Impl.Wheel.WJ) hold together after every run of such steps (`crun_inv`).
-/
import OtterVerif.Proofs.CacheJoint
import OtterVerif.Proofs.WheelJoint

namespace OtterVerif.Proofs.CacheAll
open OtterVerif OtterVerif.Impl.Policy OtterVerif.Proofs.CacheJoint
open OtterVerif.Impl.Wheel (Wheel WJ)

/-- an invariant kept by removing one identity at a time is kept by removing a list of them -/
theorem foldl_filter {σ α : Type} {I : σ → List α → Prop} {step : σ → Nat → σ} {f : α → Nat}
    (hstep : ∀ s l e, I s l → I (step s e) (l.filter (fun q => f q != e))) (E : List Nat) :
    ∀ {s : σ} {l : List α}, I s l → I (E.foldl step s) (l.filter (fun q => !E.contains (f q))) := by
  induction E with
  | nil => intro s l h; rwa [List.filter_eq_self.mpr (fun q _ => by simp)]
  | cons e rest ih =>
    intro s l h
    have : (l.filter (fun q => f q != e)).filter (fun q => !rest.contains (f q)) = l.filter (fun q => !(e :: rest).contains (f q)) := by
      rw [List.filter_filter]
      exact List.filter_congr (fun q _ => by simp only [List.contains_cons, Bool.not_or, bne, Bool.and_comm])
    rw [List.foldl_cons, ← this]
    exact ih (hstep s l e h)

theorem wj_remove_many {w : Wheel} {live : List (Nat × Nat)} (h : WJ w live) (E : List Nat) :
    WJ (E.foldl Impl.Wheel.delete w) (live.filter (fun q => !E.contains q.1)) :=
  foldl_filter (I := WJ) (f := (·.1)) (fun _ _ e h => Impl.Wheel.wj_remove h e) E h

theorem jexpire_list {S : List Nat} {p : Policy} {live : List Nat} (h : JInv S p live) (E : List Nat) :
    JInv S (E.foldl (fun p x => delete (retire p x) x) p) (live.filter (fun x => !E.contains x)) :=
  foldl_filter (I := JInv S) (f := fun x => x) (fun _ _ e h => jexpire_any h e) E h

theorem jexpire_many {S : List Nat} (E : List Nat) : ∀ {p : Policy} {live : List Nat}, JInv S p live → E.Nodup →
    (∀ e ∈ E, e ∈ live) →
    JInv S (E.foldl (fun p x => delete (retire p x) x) p) (live.filter (fun x => !E.contains x)) :=
  fun h _ _ => jexpire_list h E

structure CState where
  S : List Nat
  p : Policy
  w : Wheel
  live : List (Nat × Nat)        -- mapped nodes with their deadlines

structure CInv (s : CState) : Prop where
  pol : JInv s.S s.p (s.live.map (·.1))
  whl : WJ s.w s.live

/-- the nodes of `l` the policy has killed -/
def victims (p : Policy) (l : List (Nat × Nat)) : List Nat := (l.filter (fun q => (p.node q.1).st != .alive)).map (·.1)

theorem map_filter_fst (l : List (Nat × Nat)) (g : Nat × Nat → Bool) (f : Nat → Bool) (h : ∀ q ∈ l, g q = f q.1) :
    (l.filter g).map (·.1) = (l.map (·.1)).filter f := by
  rw [List.filter_map]
  exact congrArg _ (List.filter_congr h)

theorem mem_victims (p : Policy) (l : List (Nat × Nat)) (x : Nat) :
    x ∈ victims p l ↔ x ∈ l.map (·.1) ∧ (p.node x).st ≠ .alive := by
  unfold victims
  rw [map_filter_fst l _ (fun x => (p.node x).st != .alive) (fun _ _ => rfl), List.mem_filter, bne_iff_ne]

theorem map_filter_ne (live : List (Nat × Nat)) (old : Nat) :
    (live.filter (fun q => q.1 != old)).map (·.1) = (live.map (·.1)).filter (· != old) :=
  map_filter_fst live _ _ (fun _ _ => rfl)

/-- the list part of the step, for any policy state p' (kept abstract so that nothing unfolds the eviction pass) -/
theorem survivors_map (p' : Policy) (l1 : List (Nat × Nat)) :
    (l1.filter (fun q => !(victims p' l1).contains q.1)).map (·.1) = react p' (l1.map (·.1)) :=
  map_filter_fst l1 _ _ (fun q hq => by
    have hm : q.1 ∈ l1.map (·.1) := List.mem_map.mpr ⟨q, hq, rfl⟩
    rw [Bool.eq_iff_iff]
    simp [mem_victims, hm])

/-- the end of every step that runs the eviction pass: `p'` is the policy after it, `w1` and `l1` the wheel and the mapped nodes
    after the write event; the eviction callback unlinks every victim from the table and from the wheel.  `cinsert`, `creplace`,
    `cremove` and `cread` below are written out in full and end in this expression; `cinsert_eq` … `cread_eq` check that by
    `rfl`, so an edit of one of the four needs the same edit here -/
def settle (S : List Nat) (p' : Policy) (w1 : Wheel) (l1 : List (Nat × Nat)) : CState :=
  { S := S, p := p', w := (victims p' l1).foldl Impl.Wheel.delete w1,
    live := l1.filter (fun q => !(victims p' l1).contains q.1) }

theorem settle_p (S : List Nat) (p' : Policy) (w1 : Wheel) (l1 : List (Nat × Nat)) : (settle S p' w1 l1).p = p' := rfl

theorem settle_inv {S : List Nat} {p' : Policy} {w1 : Wheel} {l1 : List (Nat × Nat)}
    (hj : JInv S p' (react p' (l1.map (·.1)))) (hw : WJ w1 l1) : CInv (settle S p' w1 l1) :=
  ⟨(survivors_map p' l1).symm ▸ hj, wj_remove_many hw _⟩

/-- **a new entry, through both policies**: created alive, scheduled in the wheel and added to the size policy (runTask add), the
    eviction pass, and the callback unlinking every victim from the table and the wheel -/
def cinsert (s : CState) (id key wt d : Nat) : CState :=
  let p' := evictNodes (add (mkNode s.p id key wt .alive) id)
  let l1 := (id, d) :: s.live
  { S := id :: s.S, p := p',
    w := (victims p' l1).foldl Impl.Wheel.delete (Impl.Wheel.add s.w id d),
    live := l1.filter (fun q => !(victims p' l1).contains q.1) }

theorem cinsert_eq (s : CState) (id key wt d : Nat) : cinsert s id key wt d =
    settle (id :: s.S) (evictNodes (add (mkNode s.p id key wt .alive) id)) (Impl.Wheel.add s.w id d) ((id, d) :: s.live) := rfl

theorem cinsert_inv (s : CState) (h : CInv s) (id key wt d : Nat) (hs : id ∉ s.S) (hd : d < Impl.Wheel.two64) :
    CInv (cinsert s id key wt d) := by
  have hnl : id ∉ s.live.map (·.1) := fun hm => hs ((h.pol.alive id).mp hm).1
  rw [cinsert_eq]
  exact settle_inv (jinsert h.pol id key wt hs) (Impl.Wheel.wj_insert h.whl id d hd hnl)

/-- **a replaced value, through both policies**: the table retires the old node and creates the new one alive, runTask update
    unschedules the old node, schedules the new one and replays policy.update, the eviction pass runs, victims are unlinked -/
def creplace (s : CState) (id old key wt d : Nat) : CState :=
  let p' := evictNodes (update (mkNode (retire s.p old) id key wt .alive) id old)
  let l1 := (id, d) :: s.live.filter (fun q => q.1 != old)
  { S := id :: s.S, p := p',
    w := (victims p' l1).foldl Impl.Wheel.delete (Impl.Wheel.add (Impl.Wheel.delete s.w old) id d),
    live := l1.filter (fun q => !(victims p' l1).contains q.1) }

theorem creplace_eq (s : CState) (id old key wt d : Nat) : creplace s id old key wt d =
    settle (id :: s.S) (evictNodes (update (mkNode (retire s.p old) id key wt .alive) id old))
      (Impl.Wheel.add (Impl.Wheel.delete s.w old) id d) ((id, d) :: s.live.filter (fun q => q.1 != old)) := rfl

theorem creplace_inv (s : CState) (h : CInv s) (id old key wt d : Nat) (hs : id ∉ s.S) (ho : old ∈ s.live.map (·.1))
    (hd : d < Impl.Wheel.two64) : CInv (creplace s id old key wt d) := by
  rw [creplace_eq]
  refine settle_inv ?_ (Impl.Wheel.wj_reinsert h.whl old id d hd (Or.inl fun hm => hs ((h.pol.alive id).mp hm).1))
  rw [List.map_cons, map_filter_ne]
  exact jreplace h.pol id old key wt hs ho

/-- **a removed entry, through both policies** (Invalidate, or a Compute that deletes): the table retires the node, runTask
    delete unschedules it and replays policy.delete, the eviction pass runs, victims are unlinked from table and wheel -/
def cremove (s : CState) (old : Nat) : CState :=
  let p' := evictNodes (delete (retire s.p old) old)
  let l1 := s.live.filter (fun q => q.1 != old)
  { S := s.S, p := p',
    w := (victims p' l1).foldl Impl.Wheel.delete (Impl.Wheel.delete s.w old),
    live := l1.filter (fun q => !(victims p' l1).contains q.1) }

theorem cremove_eq (s : CState) (old : Nat) : cremove s old =
    settle s.S (evictNodes (delete (retire s.p old) old)) (Impl.Wheel.delete s.w old) (s.live.filter (fun q => q.1 != old)) := rfl

theorem cremove_inv (s : CState) (h : CInv s) (old : Nat) : CInv (cremove s old) := by
  rw [cremove_eq]
  exact settle_inv ((map_filter_ne s.live old).symm ▸ (reply_remove h.pol old).pass.jinv) (Impl.Wheel.wj_remove h.whl old)

/-- **a drained read that moved the deadline, through both policies** (onAccess): policy.access, the node unscheduled and
    scheduled again with its new deadline, then the eviction pass and the callback -/
def cread (s : CState) (id d' : Nat) : CState :=
  let p' := evictNodes (access s.p id)
  let l1 := (id, d') :: s.live.filter (fun q => q.1 != id)
  { S := s.S, p := p',
    w := (victims p' l1).foldl Impl.Wheel.delete (Impl.Wheel.add (Impl.Wheel.delete s.w id) id d'),
    live := l1.filter (fun q => !(victims p' l1).contains q.1) }

theorem cread_eq (s : CState) (id d' : Nat) : cread s id d' =
    settle s.S (evictNodes (access s.p id)) (Impl.Wheel.add (Impl.Wheel.delete s.w id) id d')
      ((id, d') :: s.live.filter (fun q => q.1 != id)) := rfl

theorem cread_inv (s : CState) (h : CInv s) (id d' : Nat) (hm : id ∈ s.live.map (·.1)) (hd : d' < Impl.Wheel.two64) :
    CInv (cread s id d') := by
  have hj := jpolicy_only h.pol (Reach.access id h.pol.reach) (mv_access _ id).toFr.kills
  rw [cread_eq]
  refine settle_inv ?_ (Impl.Wheel.wj_reinsert h.whl id id d' hd (Or.inr rfl))
  rw [List.map_cons, map_filter_ne]
  -- the node moves to the front of the list of mapped nodes
  have hp : (s.live.map (·.1)).Perm (id :: (s.live.map (·.1)).filter (· != id)) := by
    rw [← h.pol.nodup.erase_eq_filter]; exact List.perm_cons_erase hm
  exact hj.of_perm (hp.filter _)

/-- **an expired entry**: the wheel handed it to the callback during DeleteExpired (it is no longer scheduled), the table retires
    it and policy.delete is called — one node of a sweep -/
def cexpireOne (s : CState) (old : Nat) : CState :=
  { S := s.S, p := delete (retire s.p old) old, w := s.w, live := s.live.filter (fun q => q.1 != old) }

theorem cexpireOne_inv (s : CState) (h : CInv s) (old : Nat) : CInv (cexpireOne s old) := by
  constructor
  · simp only [cexpireOne, map_filter_ne]; exact jexpire_any h.pol old
  · simp only [cexpireOne]; exact h.whl.filter _

/-- **a maintenance sweep, through both policies**: the wheel hands the overdue nodes `X` to cache.evictNode, which unlinks each
    mapped one from the table and calls policy.delete for it; `w'` is the wheel after DeleteExpired -/
def csweepWith (s : CState) (X : List Nat) (w' : Wheel) : CState :=
  { S := s.S, p := ((s.live.map (·.1)).filter (fun x => X.contains x)).foldl (fun p x => delete (retire p x) x) s.p,
    w := w', live := s.live.filter (fun q => !X.contains q.1) }

theorem csweepWith_inv (s : CState) (h : CInv s) (X : List Nat) (w' : Wheel)
    (hw : WJ w' (s.live.filter (fun q => !X.contains q.1))) : CInv (csweepWith s X w') := by
  refine ⟨?_, hw⟩
  have hj := jexpire_list h.pol ((s.live.map (·.1)).filter (fun x => X.contains x))
  -- among the mapped nodes, the overdue ones that are mapped are the overdue ones
  have e : (s.live.filter (fun q => !X.contains q.1)).map (·.1)
      = (s.live.map (·.1)).filter (fun x => !((s.live.map (·.1)).filter (fun x => X.contains x)).contains x) :=
    map_filter_fst s.live _ _ (fun q hq => by
      have hm : q.1 ∈ s.live.map (·.1) := List.mem_map.mpr ⟨q, hq, rfl⟩
      simp only [List.contains_eq_mem, List.mem_filter, hm, true_and, Bool.decide_eq_true])
  show JInv s.S _ ((s.live.filter (fun q => !X.contains q.1)).map (·.1))
  rw [e]; exact hj

/-! ### histories of the combined state -/

inductive COp where
  | insert (id key wt d : Nat) | replace (id old key wt d : Nat) | remove (old : Nat) | expireOne (old : Nat)
  | sweep (T : Nat) | read (id d' : Nat)

/-- operations whose precondition fails are not steps of the cache (a relation, not a function with `if d < two64`: to reduce
    that `if` the kernel unfolds `Nat.decLt` on the 2^64 literal — "deep recursion"; same choice as `WStep`, Props/C13Joint) -/
inductive CStep : CState → CState → Prop
  | insert (s : CState) (id key wt d : Nat) : id ∉ s.S → d < Impl.Wheel.two64 → CStep s (cinsert s id key wt d)
  | replace (s : CState) (id old key wt d : Nat) : id ∉ s.S → old ∈ s.live.map (·.1) → d < Impl.Wheel.two64 →
      CStep s (creplace s id old key wt d)
  | remove (s : CState) (old : Nat) : old ∈ s.live.map (·.1) → CStep s (cremove s old)
  | expireOne (s : CState) (old : Nat) : old ∈ s.live.map (·.1) → CStep s (cexpireOne s old)
  | read (s : CState) (id d' : Nat) : id ∈ s.live.map (·.1) → d' < Impl.Wheel.two64 → CStep s (cread s id d')
  | sweep (s s' : CState) (T : Nat) : s.w.time ≤ T → T < Impl.Wheel.two64 →
      s' = csweepWith s (Impl.Wheel.deleteExpired s.w T).2 (Impl.Wheel.deleteExpired s.w T).1 → CStep s s'

inductive CRun : CState → CState → Prop
  | done (s : CState) : CRun s s
  | step {s s' s'' : CState} : CStep s s' → CRun s' s'' → CRun s s''

theorem cstep_inv {s s' : CState} (st : CStep s s') (h : CInv s) : CInv s' := by
  cases st with
  | insert id key wt d hs hd => exact cinsert_inv s h id key wt d hs hd
  | replace id old key wt d hs ho hd => exact creplace_inv s h id old key wt d hs ho hd
  | remove old _ => exact cremove_inv s h old
  | expireOne old _ => exact cexpireOne_inv s h old
  | read id d' hm hd => exact cread_inv s h id d' hm hd
  | sweep _ T hle hT e => rw [e]; exact csweepWith_inv s h _ _ (Impl.Wheel.wj_sweep h.whl T hle hT)

/-- **both agreements after every history** of the six kinds of step of `CStep`: insertions, replacements, removals, single
    expirations, drained reads that move a deadline, and maintenance sweeps -/
theorem crun_inv {s s' : CState} (r : CRun s s') (h : CInv s) : CInv s' := by
  induction r with
  | done s => exact h
  | step st _ ih => exact ih (cstep_inv st h)

end OtterVerif.Proofs.CacheAll
