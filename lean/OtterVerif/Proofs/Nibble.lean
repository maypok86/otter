/-
  Proofs.Nibble — nibble arithmetic for the 4-bit counters of the frequency sketch (kernel-only: omega over / and %).
-/
namespace OtterVerif.Nibble

/-- the j-th 4-bit counter of a word -/
def nib (w j : Nat) : Nat := w / 16 ^ j % 16

theorem pow_pos (j : Nat) : 0 < 16 ^ j := Nat.pow_pos (by decide)

theorem nib_lt_16 (w j : Nat) : nib w j < 16 := Nat.mod_lt _ (by decide)

/-- the code reads a counter by shifting and masking -/
theorem shiftRight_and_15 (w j : Nat) : w >>> (4 * j) &&& 15 = nib w j := by
  rw [Nat.shiftRight_eq_div_pow, Nat.pow_mul]
  exact Nat.and_two_pow_sub_one_eq_mod _ 4

theorem and_shiftLeft (a m k : Nat) : a &&& m <<< k = (a >>> k &&& m) <<< k := by
  apply Nat.eq_of_testBit_eq
  intro i
  simp only [Nat.testBit_and, Nat.testBit_shiftLeft, Nat.testBit_shiftRight]
  by_cases h : k ≤ i
  · simp [h, Nat.add_sub_cancel' h]
  · simp [h]

/-- the saturation test of the code: all four bits of counter j are set ⇔ it reads 15 -/
theorem and_mask_eq_iff (w j : Nat) : w &&& 15 <<< (4 * j) = 15 <<< (4 * j) ↔ nib w j = 15 := by
  rw [and_shiftLeft, shiftRight_and_15]
  exact ⟨fun h => by simpa using congrArg (· >>> (4 * j)) h, fun h => by rw [h]⟩

theorem nib_incr_self (w j : Nat) (hc : nib w j < 15) : nib (w + 16 ^ j) j = nib w j + 1 := by
  unfold nib at *
  rw [Nat.add_div_right _ (pow_pos j)]
  omega

/-- the lower nibbles are unchanged because 16^j is a multiple of 16^(j'+1), the higher ones because there is no carry out of
    a nibble below 15 -/
theorem nib_incr_other (w j j' : Nat) (hne : j' ≠ j) (hc : nib w j < 15) : nib (w + 16 ^ j) j' = nib w j' := by
  unfold nib at *
  rcases Nat.lt_or_gt_of_ne hne with h | h
  · obtain ⟨d, rfl⟩ : ∃ d, j = j' + (d + 1) := ⟨j - j' - 1, by omega⟩
    rw [Nat.pow_add, Nat.add_mul_div_left _ _ (pow_pos j'), Nat.pow_succ, Nat.add_mul_mod_self_right]
  · obtain ⟨d, rfl⟩ : ∃ d, j' = j + (d + 1) := ⟨j' - j - 1, by omega⟩
    rw [Nat.pow_add, Nat.pow_succ', ← Nat.div_div_eq_div_mul, ← Nat.div_div_eq_div_mul, ← Nat.div_div_eq_div_mul,
      ← Nat.div_div_eq_div_mul, Nat.add_div_right _ (pow_pos j)]
    have : (w / 16 ^ j + 1) / 16 = w / 16 ^ j / 16 := by omega
    rw [this]

theorem add_no_wrap (w j : Nat) (hw : w < 2 ^ 64) (hj : j < 16) (hc : nib w j < 15) : w + 16 ^ j < 2 ^ 64 := by
  unfold nib at hc
  have hs : (2 : Nat) ^ 64 = 16 * 16 ^ (15 - j) * 16 ^ j := by
    rw [← Nat.pow_succ', ← Nat.pow_add, show 15 - j + 1 + j = 16 by omega]
  have h1 : w / 16 ^ j < 16 * 16 ^ (15 - j) := by rw [Nat.div_lt_iff_lt_mul (pow_pos j), ← hs]; exact hw
  have h2 : (w + 16 ^ j) / 16 ^ j < 16 * 16 ^ (15 - j) := by rw [Nat.add_div_right _ (pow_pos j)]; omega
  rw [Nat.div_lt_iff_lt_mul (pow_pos j), ← hs] at h2
  exact h2

/-- the value after the aging step, nibble by nibble: halve the word, then clear the bit that slid in from the next nibble -/
def halveWord (w : Nat) : Nat → Nat
  | 0 => 0
  | n + 1 => (nib w n / 2) * 16 ^ n + halveWord w n

end OtterVerif.Nibble
