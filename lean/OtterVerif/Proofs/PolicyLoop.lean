/-
  Proofs.PolicyLoop — what one iteration of evictFromMain's loop does, said once.

  An iteration first re-seats an exhausted candidate pointer (`Loop.refill`) and then makes one of six moves (`Step`):
  it switches the victim pointer to the next queue, steps a pointer past a zero-weight node, or hands the victim or the
  candidate to evictNode.  `Loop.run_succ` is the only place where the loop body is taken apart; every fact about the loop
  is an invariant of `Step` (`Loop.run_inv`) or a measure that `Step` decreases (`Loop.run_fuel`).
-/
import OtterVerif.Impl.Policy

namespace OtterVerif.Impl.Policy

/-- the variables of evictFromMain's loop -/
structure Loop where
  p : Policy
  vq : Nat
  cq : Nat
  v : Option Nat
  c : Option Nat

def Loop.run (s : Loop) (fuel : Nat) : Policy × Bool := evictFromMainX.go s.p s.vq s.cq s.v s.c fuel

def Loop.refill (s : Loop) : Loop :=
  { s with c := if s.c.isNone && s.cq == 1 then s.p.window.head? else s.c,
           cq := if s.c.isNone && s.cq == 1 then 0 else s.cq }

/-- both pointers are exhausted and there is no further queue for the victim pointer -/
def Loop.Done (s : Loop) : Prop := s.v = none ∧ s.c = none ∧ s.vq ≠ 1 ∧ s.vq ≠ 2

/-- `Draw p p'`: `p'` is `p`, possibly after one jitter draw of the admission test -/
inductive Draw (p : Policy) : Policy → Prop
  | no : Draw p p
  | yes (a b : Nat) : Draw p (admit p a b).1

inductive Step : Loop → Loop → Prop
  | toProt (p cq) : Step ⟨p, 1, cq, none, none⟩ ⟨p, 2, cq, p.prot.head?, none⟩
  | toWindow (p cq) : Step ⟨p, 2, cq, none, none⟩ ⟨p, 0, cq, p.window.head?, none⟩
  | skipV {p vq cq x c} : (p.node x).weight = 0 → Step ⟨p, vq, cq, some x, c⟩ ⟨p, vq, cq, next p x, c⟩
  | skipC {p vq cq v y} : (p.node y).weight = 0 → Step ⟨p, vq, cq, v, some y⟩ ⟨p, vq, cq, v, next p y⟩
  /-- the candidate pointer is dropped, kept (if it is not at the victim) or advanced after the eviction -/
  | evictV {p p0 vq cq x c c'} : (p.node x).weight ≠ 0 → Draw p p0 →
      (c' = none ∨ c ≠ some x ∧ (c' = c ∨ ∃ y, c = some y ∧ c' = next (evictNode p0 x) y)) →
      Step ⟨p, vq, cq, some x, c⟩ ⟨evictNode p0 x, vq, cq, next p0 x, c'⟩
  | evictC {p p0 vq cq v y} : (p.node y).weight ≠ 0 → v ≠ some y → Draw p p0 →
      Step ⟨p, vq, cq, v, some y⟩ ⟨evictNode p0 y, vq, cq, v, next p0 y⟩

theorem Loop.run_succ (s : Loop) (fuel : Nat) :
    (s.run (fuel + 1) = (s.p, false) ∧ (BitVec.ult s.p.maximum s.p.weightedSize = false ∨ s.refill.Done)) ∨
    (BitVec.ult s.p.maximum s.p.weightedSize = true ∧ ∃ s', Step s.refill s' ∧ s.run (fuel + 1) = s'.run fuel) := by
  obtain ⟨p, vq, cq, v, c⟩ := s
  dsimp only [Loop.run, Loop.refill, Loop.Done]
  -- the refilled candidate as a variable `c'`, so that the cases' equations about it can be substituted
  generalize hc : (if (c.isNone && cq == 1) = true then p.window.head? else c) = c'
  generalize hn : fuel + 1 = n
  have ok : ∀ {b : Bool}, ¬(!b) = true → b = true := by simp
  have ne : ∀ {x y : Nat}, ¬(y == x) = true → (some y : Option Nat) ≠ some x ∧ (some x : Option Nat) ≠ some y := by
    intro x y h; simp at h; exact ⟨by simpa using h, by simpa using Ne.symm h⟩
  -- One case per branch of the loop body, in the order of the text.  In every case `hg` is the loop guard, `x` the victim,
  -- `y` the candidate (`hy : c' = some y`), `hx` / `hw` the test that the victim / the candidate is not weightless, `e` the
  -- outcome of the test `y == x`; what a case does not use is `_`.
  fun_cases evictFromMainX.go p vq cq v c n
  -- `n` is `fuel + 1`: the branch for no fuel goes, in the others the recursive call is on `fuel`
  all_goals cases hn
  -- within the maximum: the loop ends
  case case2 hg => exact Or.inl ⟨rfl, Or.inl (by simpa using hg)⟩
  -- both pointers exhausted, the victim pointer in probation: on to the protected queue
  case case3 hg _ _ _ h1 h =>
    obtain rfl : vq = 1 := by simpa using h1
    obtain ⟨h3, rfl⟩ := (by simpa using h : _ = none ∧ v = none)
    cases hc.symm.trans h3
    exact Or.inr ⟨ok hg, _, Step.toProt p _, by rw [h3]⟩
  -- both pointers exhausted, the victim pointer in the protected queue: on to the window
  case case4 hg _ _ _ _ h2 h =>
    obtain rfl : vq = 2 := by simpa using h2
    obtain ⟨h3, rfl⟩ := (by simpa using h : _ = none ∧ v = none)
    cases hc.symm.trans h3
    exact Or.inr ⟨ok hg, _, Step.toWindow p _, by rw [h3]⟩
  -- both pointers exhausted and no queue left: the loop ends (`Done`)
  case case5 _ _ _ h1 h2 h =>
    obtain ⟨h3, rfl⟩ := (by simpa using h : _ = none ∧ v = none)
    exact Or.inl ⟨rfl, Or.inr ⟨rfl, hc.symm.trans h3, by simpa using h1, by simpa using h2⟩⟩
  -- the victim is weightless: skip it
  case case6 hg _ _ _ x hz _ =>
    subst hc
    exact Or.inr ⟨ok hg, _, Step.skipV (by simpa using hz), rfl⟩
  -- the candidate is weightless: skip it
  case case7 hg _ _ _ x _ y hy hz _ =>
    cases hc.symm.trans hy
    exact Or.inr ⟨ok hg, _, Step.skipC (by simpa using hz), rfl⟩
  -- candidate == victim: evict it and drop the candidate pointer
  case case8 hg _ _ _ x hx y hy _ e _ _ =>
    cases hc.symm.trans hy
    obtain rfl : y = x := by simpa using e
    exact Or.inr ⟨ok hg, _, Step.evictV (by simpa using hx) Draw.no (Or.inl rfl), rfl⟩
  -- the victim is not alive: evict it
  case case9 hg _ _ _ x hx y hy _ e _ _ _ =>
    cases hc.symm.trans hy
    exact Or.inr ⟨ok hg, _, Step.evictV (by simpa using hx) Draw.no (Or.inr ⟨(ne e).1, Or.inl rfl⟩), by rw [hy]⟩
  -- the candidate is not alive: evict it
  case case10 hg _ _ _ x _ y hy hw e _ _ _ _ =>
    cases hc.symm.trans hy
    exact Or.inr ⟨ok hg, _, Step.evictC (by simpa using hw) (ne e).2 Draw.no, rfl⟩
  -- the candidate alone exceeds the maximum: evict it
  case case11 hg _ _ _ x _ y hy hw e _ _ _ _ _ =>
    cases hc.symm.trans hy
    exact Or.inr ⟨ok hg, _, Step.evictC (by simpa using hw) (ne e).2 Draw.no, rfl⟩
  -- the candidate is admitted (`ha`, in the state `p1` after the draw): evict the victim; the candidate pointer advances in
  -- the state after the eviction
  case case12 hg _ _ _ x hx y hy _ e _ _ _ p1 _ _ _ ha =>
    cases hc.symm.trans hy
    obtain rfl : (admit p (p.node y).key (p.node x).key).1 = p1 := by rw [ha]
    exact Or.inr ⟨ok hg, _,
      Step.evictV (by simpa using hx) (Draw.yes (p.node y).key (p.node x).key) (Or.inr ⟨(ne e).1, Or.inr ⟨y, rfl, rfl⟩⟩),
      -- plain `rfl` unfolds evictNode on both sides before it looks at the let-bound policy: slow to check
      by with_reducible rfl⟩
  -- the candidate is rejected (`ha`): evict it
  case case13 hg _ _ _ x _ y hy hw e _ _ _ p1 _ ha _ _ _ =>
    cases hc.symm.trans hy
    obtain rfl : (admit p (p.node y).key (p.node x).key).1 = p1 := by rw [ha]
    exact Or.inr ⟨ok hg, _, Step.evictC (by simpa using hw) (ne e).2 (Draw.yes (p.node y).key (p.node x).key), rfl⟩
  -- a victim and no candidate: evict the victim
  case case14 hg _ _ _ x hx hy _ _ =>
    cases hc.symm.trans hy
    exact Or.inr ⟨ok hg, _, Step.evictV (by simpa using hx) Draw.no (Or.inl rfl), rfl⟩
  -- no victim, the candidate is weightless: skip it
  case case15 hg _ _ _ y hy hz _ =>
    cases hc.symm.trans hy
    exact Or.inr ⟨ok hg, _, Step.skipC (by simpa using hz), rfl⟩
  -- no victim: evict the candidate
  case case16 hg _ _ _ y hy hw _ _ =>
    cases hc.symm.trans hy
    exact Or.inr ⟨ok hg, _, Step.evictC (by simpa using hw) nofun Draw.no, rfl⟩
  -- neither pointer, yet not both exhausted: no such case
  case case17 _ _ _ hy h => simp [hy] at h

/-- an invariant of the loop's moves holds of the state the loop ends in; if the loop bound did not end it, that state is
    within the maximum or `Done` -/
theorem Loop.run_inv {I : Loop → Prop} (hr : ∀ s, I s → I s.refill)
    (hs : ∀ s s', BitVec.ult s.p.maximum s.p.weightedSize = true → I s → Step s s' → I s') :
    ∀ fuel s, I s → ∃ t, I t ∧ (s.run fuel).1 = t.p ∧
      ((s.run fuel).2 = false → BitVec.ult t.p.maximum t.p.weightedSize = false ∨ t.Done) := by
  intro fuel
  induction fuel with
  | zero => exact fun s hi => ⟨s, hi, rfl, nofun⟩
  | succ fuel ih =>
    intro s hi
    rcases s.run_succ fuel with ⟨e, h⟩ | ⟨hg, s', hstep, e⟩
    · rw [e]; exact ⟨s.refill, hr s hi, rfl, fun _ => h⟩
    · rw [e]; exact ih s' (hs s.refill s' hg (hr s hi) hstep)

theorem Loop.run_fuel {I : Loop → Prop} {μ : Loop → Nat} (hr : ∀ s, I s → I s.refill ∧ μ s.refill ≤ μ s)
    (hs : ∀ s s', I s → Step s s' → I s' ∧ μ s' < μ s) : ∀ fuel s, I s → μ s < fuel → (s.run fuel).2 = false := by
  intro fuel
  induction fuel with
  | zero => exact fun s _ h => absurd h (Nat.not_lt_zero _)
  | succ fuel ih =>
    intro s hi hm
    rcases s.run_succ fuel with ⟨e, _⟩ | ⟨_, s', hstep, e⟩
    · rw [e]
    · have h := hs s.refill s' (hr s hi).1 hstep
      rw [e]; exact ih s' h.1 (by have := (hr s hi).2; omega)

/-- the loop variables with which evictFromMain enters its loop -/
def Loop.start (p : Policy) (cand : Option Nat) : Loop := ⟨p, 1, 1, p.probation.head?, cand⟩

theorem evictNodes_inv {I : Loop → Prop} (hr : ∀ s, I s → I s.refill)
    (hs : ∀ s s', BitVec.ult s.p.maximum s.p.weightedSize = true → I s → Step s s' → I s') {p : Policy}
    (h0 : I (Loop.start (evictFromWindow p).1 (evictFromWindow p).2)) :
    ∃ t, I t ∧ evictNodes p = t.p ∧
      (evictNodesRanOut p = false → BitVec.ult t.p.maximum t.p.weightedSize = false ∨ t.Done) :=
  Loop.run_inv hr hs _ _ h0

/-! ### the loop as a chain of guarded evictions -/

theorem admit_fst (p : Policy) (a b : Nat) : ∃ r, (admit p a b).1 = { p with rands := r } := by
  unfold admit
  simp only
  split
  · exact ⟨p.rands, rfl⟩
  · split
    · split
      · exact ⟨_, rfl⟩
      · exact ⟨p.rands, rfl⟩
    · exact ⟨p.rands, rfl⟩

theorem Draw.eq {p p0 : Policy} (h : Draw p p0) : ∃ r, p0 = { p with rands := r } := by
  cases h with
  | no => exact ⟨p.rands, rfl⟩
  | yes a b => exact admit_fst p a b

/-- q is reached from p by size evictions, each performed in a state whose running total exceeded the maximum -/
inductive Just : Policy → Policy → Prop
  | done (p : Policy) : Just p p
  | evict (p q : Policy) (x : Nat) : BitVec.ult p.maximum p.weightedSize = true → Just (evictNode p x) q → Just p q
  | draw (p q : Policy) (a b : Nat) : Just (admit p a b).1 q → Just p q

theorem Just.trans {p q r : Policy} (h1 : Just p q) (h2 : Just q r) : Just p r := by
  induction h1 with
  | done => exact h2
  | evict p q x hg _ ih => exact .evict p r x hg (ih h2)
  | draw p q a b _ ih => exact .draw p r a b (ih h2)

theorem Just.preserves {I : Policy → Prop} (he : ∀ p x, I p → I (evictNode p x)) (ha : ∀ p a b, I p → I (admit p a b).1)
    {p q : Policy} (h : Just p q) : I p → I q := by
  induction h with
  | done => exact id
  | evict p q x _ _ ih => exact fun hi => ih (he p x hi)
  | draw p q a b _ ih => exact fun hi => ih (ha p a b hi)

/-- what a move does to the policy: nothing, or the eviction of a node of non-zero weight, possibly after a draw -/
theorem Step.policy {s s' : Loop} (h : Step s s') :
    s'.p = s.p ∨ ∃ p0 x, Draw s.p p0 ∧ (s.p.node x).weight ≠ 0 ∧ s'.p = evictNode p0 x := by
  cases h with
  | toProt | toWindow | skipV | skipC => exact .inl rfl
  | evictV hx hd => exact .inr ⟨_, _, hd, hx, rfl⟩
  | evictC hy _ hd => exact .inr ⟨_, _, hd, hy, rfl⟩

theorem Just.of_step {s s' : Loop} (hg : BitVec.ult s.p.maximum s.p.weightedSize = true) (h : Step s s') : Just s.p s'.p := by
  rcases h.policy with e | ⟨p0, x, hd, _, e⟩
  · rw [e]; exact .done _
  · rw [e]
    cases hd with
    | no => exact .evict _ _ x hg (.done _)
    | yes a b =>
      obtain ⟨r, e⟩ := admit_fst s.p a b
      exact .draw _ _ a b (.evict _ _ x (by rw [e]; exact hg) (.done _))

theorem just_evictNodes (p : Policy) : Just (evictFromWindow p).1 (evictNodes p) := by
  obtain ⟨t, ht, e, _⟩ := evictNodes_inv (I := fun s => Just (evictFromWindow p).1 s.p) (fun _ h => h)
    (fun _ _ hg h hs => h.trans (Just.of_step hg hs)) (p := p) (.done _)
  exact e ▸ ht

end OtterVerif.Impl.Policy
