/-
  Proofs.RunSim — histories are runs of a step function; a simulation of steps is a simulation of runs (`run_sim`), and a
  balance that every step keeps is kept by runs (`run_conserves`).

  The history theorems (TableTrace, TableTraceFull, TableEvict, TableAll) each define their own pair of `run` functions over
  their own operation type; `IsRun` / `IsRunOpt` hold of every one of them by `rfl`.  `run_sim` is the one induction they all
  need.  Its relation is indexed by the operations still to come, so that it can carry a hypothesis about the rest of the
  history (such as the clock staying in range).  The spec's step may refuse an operation (`none`: an automatic removal that
  is not justified); a spec that accepts everything is the special case `some ∘ step`.
-/
namespace OtterVerif.Proofs.RunSim

structure IsRun {σ O ρ : Type} (step : σ → O → σ × ρ) (run : σ → List O → σ × List ρ) : Prop where
  nil : ∀ s, run s [] = (s, [])
  cons : ∀ s op rest, run s (op :: rest) = ((run (step s op).1 rest).1, (step s op).2 :: (run (step s op).1 rest).2)

structure IsRunOpt {τ O ρ : Type} (step : τ → O → Option (τ × ρ)) (run : τ → List O → Option (τ × List ρ)) : Prop where
  nil : ∀ s, run s [] = some (s, [])
  cons : ∀ s op rest, run s (op :: rest) =
    match step s op with
    | none => none
    | some r => (run r.1 rest).map (fun q => (q.1, r.2 :: q.2))

theorem run_sim {σ τ O ρ : Type} {istep : σ → O → σ × ρ} {irun : σ → List O → σ × List ρ} (hi : IsRun istep irun)
    {sstep : τ → O → Option (τ × ρ)} {srun : τ → List O → Option (τ × List ρ)} (hs : IsRunOpt sstep srun)
    (R : List O → σ → τ → Prop)
    (step : ∀ op rest i s r, R (op :: rest) i s → sstep s op = some r → (istep i op).2 = r.2 ∧ R rest (istep i op).1 r.1) :
    ∀ ops i s, R ops i s → ∀ q, srun s ops = some q → (irun i ops).2 = q.2 ∧ R [] (irun i ops).1 q.1 := by
  intro ops
  induction ops with
  | nil =>
    intro i s h q hq
    rw [hs.nil, Option.some.injEq] at hq
    subst hq
    rw [hi.nil]
    exact ⟨rfl, h⟩
  | cons op rest ih =>
    intro i s h q hq
    rw [hs.cons] at hq
    cases hx : sstep s op with
    | none => rw [hx] at hq; cases hq
    | some r =>
      rw [hx] at hq
      obtain ⟨q', hq', rfl⟩ := Option.map_eq_some_iff.mp hq
      have h1 := step op rest i s r h hx
      have h2 := ih (istep i op).1 r.1 h1.2 q' hq'
      rw [hi.cons]
      exact ⟨by rw [h1.1, h2.1], h2.2⟩

/-- bookkeeping along a run: if every step (from a state with `I`) changes `size` by what it gains minus what it loses, a
    run does, with the gains added up by any `total` that recurses over operations and results in step -/
theorem run_conserves {σ O ρ : Type} {step : σ → O → σ × ρ} {run : σ → List O → σ × List ρ} (hi : IsRun step run)
    (I : σ → Prop) (size : σ → Nat) (gain : O → ρ → Nat) (loss : ρ → Nat)
    (hstep : ∀ s op, I s → size (step s op).1 + loss (step s op).2 = size s + gain op (step s op).2 ∧ I (step s op).1)
    {total : List O → List ρ → Nat} (h0 : total [] [] = 0)
    (h1 : ∀ op ops r rs, total (op :: ops) (r :: rs) = gain op r + total ops rs) :
    ∀ ops s, I s → size (run s ops).1 + ((run s ops).2.map loss).sum = size s + total ops (run s ops).2 ∧ I (run s ops).1 := by
  intro ops
  induction ops with
  | nil => intro s h; rw [hi.nil, h0]; exact ⟨rfl, h⟩
  | cons op rest ih =>
    intro s h
    obtain ⟨hs, hI⟩ := hstep s op h
    obtain ⟨hr, hI'⟩ := ih (step s op).1 hI
    rw [hi.cons, h1, List.map_cons, List.sum_cons]
    exact ⟨by dsimp only; omega, hI'⟩

end OtterVerif.Proofs.RunSim
