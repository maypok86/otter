/-
  Proofs.LossyGen — what the REGENERATED computations of internal/lossy/ring.go and striped.go (Gen.LossySites) compute, as
  the read-buffer models (Impl.Ring, Conc.Ring, Conc.Striped) assume it; no model is mentioned here.
  Here: the result codes of ring.add, the stripe index, the bound on the table's growth.  The ring's index arithmetic (full
  iff tail - head ≥ 16, slots tail mod 16 and head mod 16) and the loops that carry the rings over on growth and that DrainTo
  walks (from 0, while `j < len`, by one: every stripe, stripe 0 included) are Props.C17, `c17_gen_ring` and
  `c17_gen_every_stripe`.
-/
import OtterVerif.Gen.LossySites
import OtterVerif.Proofs.BvFacts

namespace OtterVerif.Proofs.LossyGen
open OtterVerif OtterVerif.Gen.LossySites

/-- the three results of ring.add in the order of its returns: Full = 1, Success = 0, Failed = −1 = 255 — Striped.Add and expandOrRetry test against Failed -/
theorem ring_results : ring_add_r0 = 1#8 ∧ ring_add_r1 = 0#8 ∧ ring_add_r2 = 255#8 ∧
    (∀ r : BitVec 8, Striped_Add_c3 r = (r == 255#8)) ∧ (∀ r : BitVec 8, Striped_expandOrRetry_c8 r = (r != 255#8)) :=
  ⟨rfl, rfl, rfl, fun _ => rfl, fun _ => rfl⟩

/-- a stripe index `idx & uint32(len - 1)` lies inside the table -/
theorem stripe_in_range (len : BitVec 64) (idx : BitVec 32) (h : 0 < len.toNat) : (Striped_Add_x0 len idx).toNat < len.toNat := by
  have h1 := Bv.toNat_and_le idx (BitVec.setWidth 32 (len - 1#64))
  have h2 : (BitVec.setWidth 32 (len - 1#64)).toNat ≤ len.toNat - 1 := by
    rw [BitVec.toNat_setWidth, ← Bv.toNat_sub_one len h]
    exact Nat.mod_le _ _
  unfold Striped_Add_x0
  omega

/-- the table is doubled, and only while it is shorter than the maximum: powers of two stay within a power-of-two maximum -/
theorem grow_within_max (len maxLen : BitVec 64) (stale : Bool) (a b : Nat) (hlen : len.toNat = 2 ^ a) (hmax : maxLen.toNat = 2 ^ b)
    (hb : b ≤ 31) (ha : a ≤ 31) (h : Striped_expandOrRetry_c9 len maxLen stale = false) :
    (Striped_expandOrRetry_a15 len).toNat = 2 * len.toNat ∧ (Striped_expandOrRetry_a15 len).toNat ≤ maxLen.toNat := by
  have h31a : (2 : Nat) ^ a ≤ 2 ^ 31 := Nat.pow_le_pow_right (by decide) ha
  have h31b : (2 : Nat) ^ b ≤ 2 ^ 31 := Nat.pow_le_pow_right (by decide) hb
  have hlt : len.toNat < maxLen.toNat := by
    unfold Striped_expandOrRetry_c9 at h
    rw [Bool.or_eq_false_iff, BitVec.sle_eq_not_slt, Bv.slt_eq_decide_toNat _ _ (by omega) (by omega)] at h
    simpa using h.1
  have hdouble : (Striped_expandOrRetry_a15 len).toNat = 2 * len.toNat := by
    unfold Striped_expandOrRetry_a15
    rw [Bv.toNat_shiftLeft_of_lt len 1 (by omega)]
    omega
  rw [hdouble, hlen, hmax]
  rw [hlen, hmax] at hlt
  exact ⟨rfl, Bv.two_mul_two_pow_le hlt⟩

end OtterVerif.Proofs.LossyGen
