/-
  Proofs.AdderGen — what the REGENERATED computations of internal/xsync/adder.go (Gen.AdderSites) compute, as the model of
  the striped counter (Conc.Adder) assumes it: the CAS of an Add installs `cnt + delta`.  That the stripe an Add picks lies
  inside the stripe array (mask = nstripes - 1) and that Value starts from 0, visits every stripe index below len(stripes)
  once and adds each stripe's load is Props.C20Conc, `c20_gen_stripe_in_range` and `c20_gen_add_and_value`.
-/
import OtterVerif.Gen.AdderSites

namespace OtterVerif.Proofs.AdderGen
open OtterVerif OtterVerif.Gen.AdderSites

/-- an Add installs the old count plus its delta (64-bit wrap, as the counter itself) -/
theorem add_installs (cnt delta : BitVec 64) : Adder_Add_x1 cnt delta = cnt + delta := rfl

end OtterVerif.Proofs.AdderGen
