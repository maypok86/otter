/-
  Proofs.WheelGen — the hand-written timer-wheel model (Impl.Wheel, over naturals) against the REGENERATED pure
  computations of internal/expiration/variable.go (Gen.Wheel, over BitVec 64: the tables `buckets`, `spans`, `shift`
  with their initialisers, `wheelTime`, `clockTime`, and every right-hand side / condition of findBucket, DeleteExpired
  and deleteExpiredFromBucket), for ALL 64-bit values: the tables are the ones the model assumes, findBucket assembled
  from the generated pieces chooses the model's level and slot, the sweep's tick, mask and expiry arithmetic is the
  model's, and wheelTime is the model's order-preserving map with clockTime its inverse.
  The loop *structure* (which generated piece feeds which) is written here by hand and exercised by UNIT-wheel.
-/
import OtterVerif.Impl.Wheel
import OtterVerif.Gen.Wheel
import OtterVerif.Proofs.BvFacts

namespace OtterVerif.Proofs.WheelGen
open OtterVerif.Impl.Wheel
open OtterVerif

/-! ### tables -/

theorem buckets_eq : Gen.Wheel.buckets.map BitVec.toNat = nBuckets := rfl
theorem spans_eq : Gen.Wheel.spans.map BitVec.toNat = spans := by decide
theorem shift_eq : Gen.Wheel.shift.map BitVec.toNat = shifts := by decide

theorem buckets_tbl (i : Nat) (hi : i < 5) : (Bv.tbl Gen.Wheel.buckets (BitVec.ofNat 64 i)).toNat = buckets i := by
  rw [Bv.toNat_tbl Gen.Wheel.buckets i 1 hi (by decide), buckets_eq]
  rfl

theorem spans_tbl (i : Nat) (hi : i < 6) : (Bv.tbl Gen.Wheel.spans (BitVec.ofNat 64 i)).toNat = span i := by
  rw [Bv.toNat_tbl Gen.Wheel.spans i (2 ^ 49) hi (by decide), spans_eq]
  rfl

theorem shift_tbl (i : Nat) (hi : i < 5) : (Bv.tbl Gen.Wheel.shift (BitVec.ofNat 64 i)).toNat = shift i := by
  rw [Bv.toNat_tbl Gen.Wheel.shift i 49 hi (by decide), shift_eq]
  rfl

theorem buckets_pow2 : ∀ i < 5, buckets i = 2 ^ [6, 6, 5, 2, 0].getD i 0 := by decide

/-- `x & (buckets[i] - 1)` is the model's `x % buckets i`: every level's size is a power of two -/
theorem mask_eq (x : BitVec 64) (i : Nat) (hi : i < 5) :
    (x &&& (Bv.tbl Gen.Wheel.buckets (BitVec.ofNat 64 i) - 1#64)).toNat = x.toNat % buckets i := by
  rw [Bv.toNat_and_pred x _ _ ((buckets_tbl i hi).trans (buckets_pow2 i hi)), ← buckets_pow2 i hi]

/-! ### findBucket from the generated pieces -/

/-- the loop of findBucket over the generated condition, comparison, ticks and index -/
def fbGo (duration expiration length : BitVec 64) : Nat → BitVec 64 → Nat × Nat
  | 0, _ => (length.toNat, 0)
  | fuel + 1, i =>
    if Gen.Wheel.fb_loop i length then
      if Gen.Wheel.fb_fits duration i then (i.toNat, (Gen.Wheel.fb_index i (Gen.Wheel.fb_ticks expiration i)).toNat)
      else fbGo duration expiration length fuel (i + 1#64)
    else (length.toNat, 0)

/-- findBucket as the code computes it: `len(v.wheel)` is `len(buckets)` (NewVariable) -/
def findBucketG (time expiration : BitVec 64) : Nat × Nat :=
  let expiration := if Gen.Wheel.fb_due expiration time then Gen.Wheel.fb_clamped time else expiration
  let duration := Gen.Wheel.fb_duration expiration time
  let length := Gen.Wheel.fb_length (Bv.tblLen Gen.Wheel.buckets)
  fbGo duration expiration length 5 0#64

/-- one turn of findBucket's loop at a level below the last.  `4#64` is the loop's bound in variable.go,
    `length := len(v.wheel) - 1` (`fb_length` at `len(buckets)`); `i < 4` is the loop's condition and also what keeps
    `spans[i+1]`, `shift[i]` and `buckets[i]` inside the tables -/
theorem fbGo_step (dur exp : BitVec 64) (fuel i : Nat) (hi : i < 4) :
    fbGo dur exp 4#64 (fuel + 1) (BitVec.ofNat 64 i) =
      if dur.toNat < span (i + 1) then (i, (exp.toNat >>> shift i) % buckets i)
      else fbGo dur exp 4#64 fuel (BitVec.ofNat 64 (i + 1)) := by
  have hloop : Gen.Wheel.fb_loop (BitVec.ofNat 64 i) 4#64 = true :=
    (Bv.slt_ofNat i 4#64 (by omega) (by decide)).trans (decide_eq_true hi)
  have hfits : Gen.Wheel.fb_fits dur (BitVec.ofNat 64 i) = decide (dur.toNat < span (i + 1)) := by
    unfold Gen.Wheel.fb_fits
    rw [BitVec.ult_eq_decide, BitVec.ofNat_add_ofNat, spans_tbl (i + 1) (by omega)]
  have hidx : (Gen.Wheel.fb_index (BitVec.ofNat 64 i) (Gen.Wheel.fb_ticks exp (BitVec.ofNat 64 i))).toNat
      = (exp.toNat >>> shift i) % buckets i := by
    unfold Gen.Wheel.fb_index Gen.Wheel.fb_ticks
    rw [mask_eq _ i (by omega), BitVec.toNat_ushiftRight, shift_tbl i (by omega)]
  rw [fbGo, hloop, hfits, hidx, Bv.toNat_ofNat_lt i (by omega), BitVec.ofNat_add_ofNat]
  simp only [↓reduceIte, decide_eq_true_eq]

theorem fbGo_eq (dur exp : BitVec 64) :
    fbGo dur exp 4#64 5 0#64 =
      if dur.toNat < span 1 then (0, (exp.toNat >>> shift 0) % buckets 0)
      else if dur.toNat < span 2 then (1, (exp.toNat >>> shift 1) % buckets 1)
      else if dur.toNat < span 3 then (2, (exp.toNat >>> shift 2) % buckets 2)
      else if dur.toNat < span 4 then (3, (exp.toNat >>> shift 3) % buckets 3)
      else (4, 0) := by
  rw [show (0#64) = BitVec.ofNat 64 0 from rfl, fbGo_step dur exp 4 0 (by decide), fbGo_step dur exp 3 1 (by decide),
    fbGo_step dur exp 2 2 (by decide), fbGo_step dur exp 1 3 (by decide)]
  rfl

/-! ### the time maps -/

/-- flipping bit 63 turns the signed reading into the unsigned one shifted by 2^63 (no wrap: the map keeps the order): the bit
    is split off, the lower 63 bits are untouched -/
theorem toNat_wheelTime (x : BitVec 64) : ((Gen.Wheel.wheelTime x).toNat : Int) = x.toInt + 2 ^ 63 := by
  have hx := x.isLt
  unfold Gen.Wheel.wheelTime
  rw [BitVec.toNat_xor, show (9223372036854775808#64).toNat = 2 ^ 63 by decide, BitVec.toInt_eq_toNat_cond]
  have hlo : (x.toNat ^^^ 2 ^ 63) % 2 ^ 63 = x.toNat % 2 ^ 63 := by
    rw [Nat.xor_mod_two_pow, Nat.mod_self, Nat.xor_zero]
  have hhi : (x.toNat ^^^ 2 ^ 63) / 2 ^ 63 = x.toNat / 2 ^ 63 ^^^ 1 := by
    rw [Nat.xor_div_two_pow, Nat.div_self (by decide)]
  rcases (by omega : x.toNat / 2 ^ 63 = 0 ∨ x.toNat / 2 ^ 63 = 1) with h | h
  · rw [h, Nat.zero_xor] at hhi
    omega
  · rw [h, Nat.xor_self] at hhi
    omega

theorem clockTime_wheelTime (t : BitVec 64) : Gen.Wheel.clockTime (Gen.Wheel.wheelTime t) = t := by
  unfold Gen.Wheel.clockTime Gen.Wheel.wheelTime
  rw [BitVec.xor_assoc, BitVec.xor_self, BitVec.xor_zero]

/-- Add schedules by the wheel-time of the node's deadline; DeleteExpired moves the wheel to the wheel-time of `now` -/
theorem add_arg_eq (e : BitVec 64) : Gen.Wheel.add_arg e = Gen.Wheel.wheelTime e := rfl
theorem de_currentTime_eq (n : BitVec 64) : Gen.Wheel.de_currentTime n = Gen.Wheel.wheelTime n := rfl
/-- the time handed to expireNode is the clock reading the wheel was moved to -/
theorem db_reportedNow_eq (n : BitVec 64) : Gen.Wheel.db_reportedNow (Gen.Wheel.wheelTime n) = n :=
  clockTime_wheelTime n

/-! ### the sweep's arithmetic -/

/-- the level loop of DeleteExpired runs over exactly the five levels -/
theorem de_loop_eq (i : Nat) (hi : i < 2 ^ 63) : Gen.Wheel.de_loop (BitVec.ofNat 64 i) = decide (i < 5) :=
  Bv.slt_ofNat i _ (by omega) (by decide)

/-- the tick numbers of the previous and of the current time are one expression, `time >> shift[i]`, at two sites -/
theorem de_ticks_eq (pt ct : BitVec 64) (i : Nat) (hi : i < 5) :
    (Gen.Wheel.de_previousTicks (BitVec.ofNat 64 i) pt).toNat = pt.toNat >>> shift i ∧
    (Gen.Wheel.de_currentTicks ct (BitVec.ofNat 64 i)).toNat = ct.toNat >>> shift i := by
  unfold Gen.Wheel.de_previousTicks Gen.Wheel.de_currentTicks
  rw [BitVec.toNat_ushiftRight, BitVec.toNat_ushiftRight, shift_tbl i hi]
  exact ⟨rfl, rfl⟩

theorem de_delta_eq (ct pt : BitVec 64) : (Gen.Wheel.de_delta ct pt).toNat = (ct.toNat + two64 - pt.toNat) % two64 :=
  Bv.toNat_sub_wrap ct pt

theorem de_stop_eq (delta : BitVec 64) : Gen.Wheel.de_stop delta = (delta.toNat == 0) :=
  Bv.beq_zero delta

/-- `start := prevTicks & mask` is the model's `prevTicks % buckets` -/
theorem db_start_eq (pt : BitVec 64) (i : Nat) (hi : i < 5) :
    (Gen.Wheel.db_start (Gen.Wheel.db_mask (BitVec.ofNat 64 i)) pt).toNat = pt.toNat % buckets i :=
  mask_eq pt i hi

/-- the visited slot `i & mask` is the model's `(start + k) % buckets` -/
theorem db_slot_eq (j : BitVec 64) (i : Nat) (hi : i < 5) :
    (Gen.Wheel.db_slot j (Gen.Wheel.db_mask (BitVec.ofNat 64 i))).toNat = j.toNat % buckets i :=
  mask_eq j i hi

/-- `steps := min(delta+1, buckets)` is the model's, as long as delta+1 does not wrap (ticks are below 2^34) -/
theorem db_steps_eq (delta : BitVec 64) (i : Nat) (hi : i < 5) (hd : delta.toNat + 1 < two64) :
    (Gen.Wheel.db_steps delta (BitVec.ofNat 64 i)).toNat = min (delta.toNat + 1) (buckets i) := by
  unfold Gen.Wheel.db_steps
  rw [Bv.toNat_umin, buckets_tbl i hi, BitVec.toNat_add_of_lt hd]
  rfl

theorem db_end_eq (start steps : BitVec 64) (h : start.toNat + steps.toNat < two64) :
    (Gen.Wheel.db_end start steps).toNat = start.toNat + steps.toNat :=
  BitVec.toNat_add_of_lt h

theorem db_loop_eq (j e : BitVec 64) : Gen.Wheel.db_loop e j = decide (j.toNat < e.toNat) :=
  BitVec.ult_eq_decide

/-- in the clock's own (signed) terms: a node is handed to expireNode iff its deadline lies strictly before the time the wheel
    was moved to (the model's `x.d < time` on wheel-times) -/
theorem db_expired_signed (e now : BitVec 64) :
    Gen.Wheel.db_expired e (Gen.Wheel.wheelTime now) = BitVec.slt e now := by
  have he := toNat_wheelTime e
  have hn := toNat_wheelTime now
  unfold Gen.Wheel.db_expired
  rw [BitVec.ult_eq_decide, BitVec.slt_eq_decide]
  exact decide_eq_decide.2 (by omega)

end OtterVerif.Proofs.WheelGen
