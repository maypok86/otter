/-
  Proofs.PolicyLink — linking lemmas for Impl.Policy: which nodes are linked and what state they are in after each policy
  operation.  Used by Props.C05 for "no entry is present but unknown to the eviction policy, and no removed entry is still
  tracked — for ALL orders in which write events reach the maintenance thread".

  An operation is taken apart once, into steps of four kinds: `Cnt` (counters, sketch, random draws), `Mv` (nodes re-queued;
  its frame half is `Fr`, which a deque operation satisfies through `Req`), `Kill` (a node unlinked and dead) and the linking
  of a new node; `AddCase`, `UpdateCase` and `updateTail_preserves` say which steps add, update and updateTail consist of, and
  each invariant (`LInv` here, `WInv` in PolicyWeight, `Kills` in PolicyKills) has one lemma per kind of step.
-/
import OtterVerif.Proofs.PolicyLoop
import OtterVerif.Proofs.KeyList

namespace OtterVerif.Impl.Policy

def Linked (p : Policy) (id : Nat) : Prop := id ∈ p.window ∨ id ∈ p.probation ∨ id ∈ p.prot

theorem linkedIn_isSome_iff (p : Policy) (id : Nat) : (linkedIn p id).isSome = true ↔ Linked p id := by
  unfold Linked
  fun_cases linkedIn p id <;> simp_all

theorem dqContains_iff (p : Policy) (q id : Nat) : dqContains p q id = true ↔ Linked p id := by
  unfold dqContains; exact linkedIn_isSome_iff p id

theorem node_id (p : Policy) (id : Nat) : (p.node id).id = id := rfl

theorem node_setNode_self (p : Policy) (n : Node) : (p.setNode n).node n.id = n := by
  unfold Policy.setNode Policy.node
  simp

/-- `node_setNode_self` for a node written with its identifier spelt out (`{ p.node x with … }` has identifier `x` by `rfl`) -/
theorem node_setNode_at (p : Policy) (n : Node) (id : Nat) (h : n.id = id) : (p.setNode n).node id = n :=
  h ▸ node_setNode_self p n

theorem node_setNode_other (p : Policy) (n : Node) (id : Nat) (h : id ≠ n.id) : (p.setNode n).node id = p.node id := by
  unfold Policy.setNode Policy.node
  dsimp only
  rw [find?_cons_filter_key (f := Node.id), if_neg h]

theorem node_setNode_congr {α : Type} (f : Node → α) (p : Policy) (n : Node) (h : f n = f (p.node n.id)) (id : Nat) :
    f ((p.setNode n).node id) = f (p.node id) := by
  by_cases e : id = n.id
  · rw [e, node_setNode_self, h]
  · rw [node_setNode_other p n id e]

theorem linked_setNode (p : Policy) (n : Node) (id : Nat) : Linked (p.setNode n) id ↔ Linked p id := Iff.rfl

theorem linked_sketchIncr (p : Policy) (k id : Nat) : Linked (p.sketchIncr k) id ↔ Linked p id := Iff.rfl
theorem linked_ensure (p : Policy) (c : BitVec 64) (id : Nat) : Linked (p.ensure c) id ↔ Linked p id := Iff.rfl
theorem node_sketchIncr (p : Policy) (k id : Nat) : (p.sketchIncr k).node id = p.node id := rfl
theorem node_ensure (p : Policy) (c : BitVec 64) (id : Nat) : (p.ensure c).node id = p.node id := rfl

/-! ### the list of all linked nodes -/

def all (p : Policy) : List Nat := p.window ++ (p.probation ++ p.prot)

theorem linked_iff_all (p : Policy) (id : Nat) : Linked p id ↔ id ∈ all p := by
  unfold Linked all; simp only [List.mem_append]

theorem contains_iff_all (p : Policy) (q id : Nat) : dqContains p q id = true ↔ id ∈ all p :=
  (dqContains_iff p q id).trans (linked_iff_all p id)

/-- Node lookup and the list of linked nodes depend on the policy only through `nodes` and the three deques.  State that
    two policies agree there field by field (each `rfl` for a record update of other fields): comparing the two records
    as wholes makes the unifier evaluate the updated fields. -/
theorem node_congr {p p' : Policy} (h : p'.nodes = p.nodes) (id : Nat) : p'.node id = p.node id := by
  unfold Policy.node; rw [h]

theorem all_setNode (p : Policy) (n : Node) : all (p.setNode n) = all p := rfl

theorem all_congr {p p' : Policy} (hw : p'.window = p.window) (hp : p'.probation = p.probation) (hq : p'.prot = p.prot) :
    all p' = all p := by
  unfold all; rw [hw, hp, hq]

/-! ### frames: what a step leaves alone -/

/-- `Cnt p p'`: p' differs from p at most in the counters, the sketch and the random draws -/
structure Cnt (p p' : Policy) : Prop where
  nodes : p'.nodes = p.nodes
  window : p'.window = p.window
  probation : p'.probation = p.probation
  prot : p'.prot = p.prot
  maximum : p'.maximum = p.maximum
  evicted : p'.evicted = p.evicted

theorem Cnt.node {p p' : Policy} (h : Cnt p p') (id : Nat) : p'.node id = p.node id := node_congr h.nodes id
theorem Cnt.all {p p' : Policy} (h : Cnt p p') : all p' = all p := all_congr h.window h.probation h.prot

theorem cnt_discount (p : Policy) (x : Nat) : Cnt p (discount p x) := by
  unfold discount
  simp only
  split
  · exact ⟨rfl, rfl, rfl, rfl, rfl, rfl⟩
  · split
    · exact ⟨rfl, rfl, rfl, rfl, rfl, rfl⟩
    · exact ⟨rfl, rfl, rfl, rfl, rfl, rfl⟩

theorem linked_discount (p : Policy) (x id : Nat) : Linked (discount p x) id ↔ Linked p id := by
  rw [linked_iff_all, linked_iff_all, (cnt_discount p x).all]

theorem linkedIn_discount (p : Policy) (x id : Nat) : linkedIn (discount p x) id = linkedIn p id := by
  have h := cnt_discount p x
  unfold linkedIn; rw [h.window, h.probation, h.prot]

/-- `Fr p p'`: what an operation that only re-queues nodes leaves alone — the state and the weight of every node, the
    running total, the maximum and the callback log -/
structure Fr (p p' : Policy) : Prop where
  st : ∀ id, (p'.node id).st = (p.node id).st
  weight : ∀ id, (p'.node id).weight = (p.node id).weight
  ws : p'.weightedSize = p.weightedSize
  max : p'.maximum = p.maximum
  evicted : p'.evicted = p.evicted

/-- `Req p p'`: p' differs from p at most in the deques and in counters other than the running total (the mirror image of
    `Cnt`): what re-queueing a node by the deque operations comes to -/
structure Req (p p' : Policy) : Prop where
  nodes : p'.nodes = p.nodes
  ws : p'.weightedSize = p.weightedSize
  maximum : p'.maximum = p.maximum
  evicted : p'.evicted = p.evicted

theorem Req.node {p p' : Policy} (h : Req p p') (id : Nat) : p'.node id = p.node id := node_congr h.nodes id

theorem Req.fr {p p' : Policy} (h : Req p p') : Fr p p' :=
  ⟨fun id => by rw [h.node], fun id => by rw [h.node], h.ws, h.maximum, h.evicted⟩

theorem Fr.refl (p : Policy) : Fr p p := Req.fr ⟨rfl, rfl, rfl, rfl⟩

theorem Fr.trans {p p' p'' : Policy} (h1 : Fr p p') (h2 : Fr p' p'') : Fr p p'' :=
  ⟨fun id => (h2.st id).trans (h1.st id), fun id => (h2.weight id).trans (h1.weight id), h2.ws.trans h1.ws, h2.max.trans h1.max,
   h2.evicted.trans h1.evicted⟩

/-- the model gives a node another queue type by writing back the node it read at the start, after re-queueing it -/
theorem Fr.setQt {p p1 : Policy} (h : Fr p p1) (x k : Nat) : Fr p (p1.setNode { p.node x with qt := k }) :=
  h.trans ⟨node_setNode_congr Node.st p1 _ (h.st x).symm, node_setNode_congr Node.weight p1 _ (h.weight x).symm, rfl, rfl, rfl⟩

/-! ### the three deques

  The lemmas about nodes, frames and invariants below do not split on which deque a queue number names: they go through
  `req_setDq`, `all_setDq`, `Dqs.dq` (a deque read or written by number) and `linkedIn_isSome_iff`, `mem_of_linkedIn`,
  `linkedIn_of_mem`, `dqs_onLinked` (the deque that links a node).  (The hill climber's `demote` takes the head of `prot` as such.) -/

theorem req_setDq (p : Policy) (q : Nat) (l : List Nat) : Req p (setDq p q l) := by
  unfold setDq
  split
  · exact ⟨rfl, rfl, rfl, rfl⟩
  · split
    · exact ⟨rfl, rfl, rfl, rfl⟩
    · exact ⟨rfl, rfl, rfl, rfl⟩

theorem all_setDq (p : Policy) (q : Nat) :
    ∃ a b, all p = a ++ (dq p q ++ b) ∧ ∀ l, all (setDq p q l) = a ++ (l ++ b) := by
  unfold dq setDq all
  by_cases h0 : (q == 0) = true
  · simp only [h0, ↓reduceIte]
    exact ⟨[], p.probation ++ p.prot, rfl, fun _ => rfl⟩
  · by_cases h1 : (q == 1) = true
    · simp only [h0, h1, ↓reduceIte]
      exact ⟨p.window, p.prot, rfl, fun _ => rfl⟩
    · simp only [h0, h1]
      exact ⟨p.window ++ p.probation, [], by simp, fun _ => by simp⟩

theorem dq_sub_all (p : Policy) (q x : Nat) (h : x ∈ dq p q) : x ∈ all p := by
  obtain ⟨a, b, e, _⟩ := all_setDq p q
  rw [e]; exact List.mem_append_right _ (List.mem_append_left _ h)

theorem nodup_dq {p : Policy} (hn : (all p).Nodup) (q : Nat) : (dq p q).Nodup := by
  obtain ⟨a, b, e, _⟩ := all_setDq p q
  rw [e] at hn
  exact (List.nodup_append.mp (List.nodup_append.mp hn).2.1).1

theorem all_pushBack (p : Policy) (q x : Nat) : (all (dqPushBack p q x)).Perm (x :: all p) := by
  obtain ⟨a, b, e, h⟩ := all_setDq p q
  rw [dqPushBack, h, e, List.append_assoc, ← List.append_assoc a, ← List.append_assoc a]
  exact List.perm_middle

theorem all_pushFront (p : Policy) (q x : Nat) : (all (dqPushFront p q x)).Perm (x :: all p) := by
  obtain ⟨a, b, e, h⟩ := all_setDq p q
  rw [dqPushFront, h, e]
  exact List.perm_middle

theorem req_pushBack (p : Policy) (q x : Nat) : Req p (dqPushBack p q x) := req_setDq p q _
theorem req_pushFront (p : Policy) (q x : Nat) : Req p (dqPushFront p q x) := req_setDq p q _

theorem mem_of_linkedIn {p : Policy} {x q : Nat} (h : linkedIn p x = some q) : x ∈ dq p q := by
  revert h
  -- `linkedIn` names the first deque it finds `x` in (`hc`)
  fun_cases linkedIn p x
  case case1 hc => exact fun h => Option.some.inj h ▸ List.contains_iff_mem.mp hc
  case case2 _ hc => exact fun h => Option.some.inj h ▸ List.contains_iff_mem.mp hc
  case case3 _ _ hc => exact fun h => Option.some.inj h ▸ List.contains_iff_mem.mp hc
  case case4 => exact nofun

/-- x is linked in at most one deque -/
def Once (p : Policy) (x : Nat) : Prop :=
  ¬ (x ∈ p.window ∧ x ∈ p.probation) ∧ ¬ (x ∈ p.window ∧ x ∈ p.prot) ∧ ¬ (x ∈ p.probation ∧ x ∈ p.prot)

theorem once_of_nodup {p : Policy} (hn : (all p).Nodup) (x : Nat) : Once p x := by
  have a := List.nodup_append.mp hn
  have b := List.nodup_append.mp a.2.1
  exact ⟨fun h => a.2.2 x h.1 x (List.mem_append_left _ h.2) rfl, fun h => a.2.2 x h.1 x (List.mem_append_right _ h.2) rfl,
    fun h => b.2.2 x h.1 x h.2 rfl⟩

theorem linkedIn_of_mem {p : Policy} {q x : Nat} (ho : Once p x) (hq : q < 3) (hx : x ∈ dq p q) : linkedIn p x = some q := by
  have hq : q = 0 ∨ q = 1 ∨ q = 2 := by omega
  unfold linkedIn
  simp only [List.contains_eq_mem, decide_eq_true_eq]
  rcases hq with rfl | rfl | rfl
  · rw [if_pos (show x ∈ p.window from hx)]
  · rw [if_neg (fun h => ho.1 ⟨h, hx⟩), if_pos (show x ∈ p.probation from hx)]
  · rw [if_neg (fun h => ho.2.1 ⟨h, hx⟩), if_neg (fun h => ho.2.2 ⟨h, hx⟩), if_pos (show x ∈ p.prot from hx)]

/-- every deque of p' is `f` of the same deque of p -/
def Dqs (f : List Nat → List Nat) (p p' : Policy) : Prop :=
  p'.window = f p.window ∧ p'.probation = f p.probation ∧ p'.prot = f p.prot

theorem Dqs.dq {f : List Nat → List Nat} {p p' : Policy} (h : Dqs f p p') (q : Nat) : dq p' q = f (dq p q) := by
  unfold Policy.dq
  split
  · exact h.1
  · split
    · exact h.2.1
    · exact h.2.2

theorem Dqs.all {f : List Nat → List Nat} {p p' : Policy} (h : Dqs f p p') (hf : ∀ a b, f (a ++ b) = f a ++ f b) :
    all p' = f (all p) := by
  unfold Policy.all; rw [h.1, h.2.1, h.2.2, hf, hf]

/-- dqDelete and dqUpdateNode rewrite the one deque that links the node -/
def onLinked (p : Policy) (x : Nat) (f : List Nat → List Nat) : Policy :=
  match linkedIn p x with
  | some q => setDq p q (f (dq p q))
  | none => p

theorem dqDelete_eq (p : Policy) (q x : Nat) : dqDelete p q x = onLinked p x (List.filter (· != x)) := rfl

theorem req_onLinked (p : Policy) (x : Nat) (f : List Nat → List Nat) : Req p (onLinked p x f) := by
  unfold onLinked
  cases linkedIn p x with
  | none => exact ⟨rfl, rfl, rfl, rfl⟩
  | some q => exact req_setDq p q _

theorem dqs_onLinked {p : Policy} {x : Nat} {f : List Nat → List Nat} (ho : Once p x) (hf : ∀ l, x ∉ l → f l = l) :
    Dqs f p (onLinked p x f) := by
  unfold onLinked linkedIn
  simp only [List.contains_eq_mem, decide_eq_true_eq]
  by_cases hw : x ∈ p.window
  · rw [if_pos hw]
    exact ⟨rfl, (hf _ (fun h => ho.1 ⟨hw, h⟩)).symm, (hf _ (fun h => ho.2.1 ⟨hw, h⟩)).symm⟩
  · rw [if_neg hw]
    by_cases hp : x ∈ p.probation
    · rw [if_pos hp]
      exact ⟨(hf _ hw).symm, rfl, (hf _ (fun h => ho.2.2 ⟨hp, h⟩)).symm⟩
    · rw [if_neg hp]
      by_cases hq : x ∈ p.prot
      · rw [if_pos hq]
        exact ⟨(hf _ hw).symm, (hf _ hp).symm, rfl⟩
      · rw [if_neg hq]
        exact ⟨(hf _ hw).symm, (hf _ hp).symm, (hf _ hq).symm⟩

theorem req_dqDelete (p : Policy) (q x : Nat) : Req p (dqDelete p q x) := req_onLinked p x _

theorem dqs_dqDelete {p : Policy} (q : Nat) {x : Nat} (ho : Once p x) : Dqs (List.filter (· != x)) p (dqDelete p q x) :=
  dqs_onLinked ho fun _ => List.filter_bne_eq_self_of_not_mem

theorem all_dqDelete (p : Policy) (q x : Nat) (h : (all p).Nodup) : all (dqDelete p q x) = (all p).filter (· != x) :=
  (dqs_dqDelete q (once_of_nodup h x)).all (fun _ _ => List.filter_append ..)

theorem linked_dqDelete (p : Policy) (q x id : Nat) : Linked (dqDelete p q x) id → Linked p id := by
  rw [linked_iff_all, linked_iff_all, dqDelete_eq]
  unfold onLinked
  cases linkedIn p x with
  | none => exact fun h => h
  | some q' =>
    obtain ⟨a, b, e, h⟩ := all_setDq p q'
    rw [h, e]
    simp only [List.mem_append, List.mem_filter]
    exact Or.imp_right (Or.imp_left And.left)

/-! ### moves: nodes re-queued -/

/-- `Mv p p'`: nothing of `Fr` changed, and p' links the same nodes as p (possibly elsewhere) — if p links no node twice:
    otherwise unlinking a node and linking it once again does not give the list back.  With the condition inside, the
    operations that re-queue satisfy `Mv` as they stand, and one walk over their text gives the frame and the permutation. -/
structure Mv (p p' : Policy) : Prop extends Fr p p' where
  perm : (all p).Nodup → (all p').Perm (all p)

theorem Mv.of_fields {p p' : Policy} (hw : p'.window = p.window) (hp : p'.probation = p.probation) (hq : p'.prot = p.prot)
    (hn : p'.nodes = p.nodes) (hs : p'.weightedSize = p.weightedSize) (hm : p'.maximum = p.maximum)
    (he : p'.evicted = p.evicted) : Mv p p' :=
  ⟨Req.fr ⟨hn, hs, hm, he⟩, fun _ => by rw [all_congr hw hp hq]⟩

theorem Mv.refl (p : Policy) : Mv p p := ⟨Fr.refl p, fun _ => List.Perm.refl _⟩
theorem Mv.nodup {p p' : Policy} (h : Mv p p') (hn : (all p).Nodup) : (all p').Nodup := (h.perm hn).nodup_iff.mpr hn
theorem Mv.mem {p p' : Policy} (h : Mv p p') (hn : (all p).Nodup) {id : Nat} : id ∈ all p' ↔ id ∈ all p := (h.perm hn).mem_iff
theorem Mv.trans {p p' p'' : Policy} (h1 : Mv p p') (h2 : Mv p' p'') : Mv p p'' :=
  ⟨h1.toFr.trans h2.toFr, fun hn => (h2.perm (h1.nodup hn)).trans (h1.perm hn)⟩

theorem Mv.setQt {p p1 : Policy} (h : Mv p p1) (x k : Nat) : Mv p (p1.setNode { p.node x with qt := k }) :=
  ⟨h.toFr.setQt x k, h.perm⟩

/-- counting a weight commutes with a move -/
theorem Mv.count {p p1 : Policy} (h : Mv p p1) (w : BitVec 64) :
    Mv { p with weightedSize := p.weightedSize + w } { p1 with weightedSize := p1.weightedSize + w } :=
  ⟨⟨h.st, h.weight, congrArg (· + w) h.ws, h.max, h.evicted⟩, h.perm⟩

theorem mv_relink {p p1 : Policy} {q x : Nat} (hx : x ∈ all p) (hf : Fr (dqDelete p q x) p1)
    (hp : (all p1).Perm (x :: all (dqDelete p q x))) : Mv p p1 := by
  refine ⟨(req_dqDelete p q x).fr.trans hf, fun hn => hp.trans ?_⟩
  rw [all_dqDelete _ _ _ hn, ← hn.erase_eq_filter]
  exact (List.perm_cons_erase hx).symm

theorem mv_delete_pushBack (p : Policy) (q q' x : Nat) (hx : x ∈ all p) : Mv p (dqPushBack (dqDelete p q x) q' x) :=
  mv_relink hx (req_pushBack _ q' x).fr (all_pushBack _ q' x)

theorem mv_moveToBack (p : Policy) (q x : Nat) (hx : x ∈ all p) : Mv p (dqMoveToBack p q x) := by
  unfold dqMoveToBack; split
  · exact Mv.refl p
  · exact mv_delete_pushBack p q q x hx

theorem mv_moveToFront (p : Policy) (q x : Nat) (hx : x ∈ all p) : Mv p (dqMoveToFront p q x) := by
  unfold dqMoveToFront; split
  · exact Mv.refl p
  · exact mv_relink hx (req_pushFront _ q x).fr (all_pushFront _ q x)

theorem mv_reorder (p : Policy) (q x : Nat) : Mv p (reorder p q x) := by
  unfold reorder; split
  · rename_i h
    exact mv_moveToBack p q x ((contains_iff_all p q x).mp h)
  · exact Mv.refl p

theorem mv_reorderProbation (p : Policy) (x : Nat) : Mv p (reorderProbation p x) := by
  fun_cases reorderProbation p x
  case case1 => exact Mv.refl p
  case case2 => exact mv_reorder p 1 x
  case case3 h _ _ _ _ =>
    have h1 : Mv p { p with mainProtectedWeightedSize := p.mainProtectedWeightedSize + w64 (p.node x).weight } :=
      .of_fields rfl rfl rfl rfl rfl rfl rfl
    exact (h1.trans (mv_delete_pushBack _ 1 2 x ((contains_iff_all p 1 x).mp (by simpa using h)))).setQt x 2

theorem mv_access (p : Policy) (x : Nat) : Mv p (access p x) := by
  unfold access
  simp only
  refine Mv.trans (p' := p.sketchIncr (p.node x).key) (.of_fields rfl rfl rfl rfl rfl rfl rfl) ?_
  split
  · exact (mv_reorder _ 0 x).trans (.of_fields rfl rfl rfl rfl rfl rfl rfl)
  · split
    · exact (mv_reorderProbation _ x).trans (.of_fields rfl rfl rfl rfl rfl rfl rfl)
    · exact (mv_reorder _ 2 x).trans (.of_fields rfl rfl rfl rfl rfl rfl rfl)

/-! ### the linking invariant

  `S` is the set of nodes whose introducing event (add, or update as the new node) has been processed. -/

structure LInv (S : List Nat) (p : Policy) : Prop where
  /-- every linked node has been introduced and is not dead -/
  a : ∀ id, id ∈ all p → id ∈ S ∧ (p.node id).st ≠ .dead
  /-- every introduced node that is still alive is linked -/
  b : ∀ id, id ∈ S → (p.node id).st = .alive → id ∈ all p
  /-- no node is linked twice -/
  c : (all p).Nodup

/-- at quiescence (no introduced node is merely retired: every removed node's delete event has been processed) the linked
    nodes are exactly the introduced nodes that are alive -/
theorem LInv.linked_iff_alive_of_quiescent {S : List Nat} {p : Policy} (hi : LInv S p)
    (hq : ∀ id, id ∈ S → (p.node id).st ≠ .alive → (p.node id).st = .dead) (id : Nat) :
    id ∈ all p ↔ id ∈ S ∧ (p.node id).st = .alive :=
  ⟨fun hl => ⟨(hi.a id hl).1, Decidable.byContradiction fun hna => (hi.a id hl).2 (hq id (hi.a id hl).1 hna)⟩,
   fun ⟨hs, ha⟩ => hi.b id hs ha⟩

theorem LInv.of_perm {S : List Nat} {p p' : Policy} (hi : LInv S p) (hp : (all p').Perm (all p))
    (hs : ∀ x, (p'.node x).st = (p.node x).st) : LInv S p' :=
  ⟨fun id hid => by rw [hs id]; exact hi.a id (hp.mem_iff.mp hid),
   fun id h ha => hp.mem_iff.mpr (hi.b id h (hs id ▸ ha)),
   hp.nodup_iff.mpr hi.c⟩

theorem LInv.mv {S : List Nat} {p p' : Policy} (hi : LInv S p) (h : Mv p p') : LInv S p' := hi.of_perm (h.perm hi.c) h.st

theorem LInv.congr {S : List Nat} {p p' : Policy} (hi : LInv S p) (hn : p'.nodes = p.nodes) (hw : p'.window = p.window)
    (hp : p'.probation = p.probation) (hq : p'.prot = p.prot) : LInv S p' :=
  hi.of_perm (all_congr hw hp hq ▸ .refl _) (fun x => by rw [node_congr hn])

theorem LInv.cnt {S : List Nat} {p p' : Policy} (hi : LInv S p) (h : Cnt p p') : LInv S p' :=
  hi.congr h.nodes h.window h.probation h.prot

/-! ### removal

  makeDead first unlinks the node (if it is linked), then marks it dead: the two halves, each with what it writes -/

def unlink (p : Policy) (x : Nat) : Policy :=
  if dqContains p (p.node x).qt x then dqDelete (discount p x) (p.node x).qt x else p

def markDead (p : Policy) (x : Nat) : Policy :=
  if (p.node x).st != .dead then p.setNode { p.node x with st := .dead } else p

theorem makeDead_eq (p : Policy) (x : Nat) : makeDead p x = markDead (unlink p x) x := rfl

theorem node_unlink (p : Policy) (x id : Nat) : (unlink p x).node id = p.node id := by
  unfold unlink
  split
  · rw [(req_dqDelete _ _ x).node, (cnt_discount p x).node]
  · rfl

theorem unlink_fields (p : Policy) (x : Nat) : (unlink p x).maximum = p.maximum ∧ (unlink p x).evicted = p.evicted := by
  unfold unlink
  split
  · have h := cnt_discount p x
    have f := req_dqDelete (discount p x) (p.node x).qt x
    exact ⟨f.maximum.trans h.maximum, f.evicted.trans h.evicted⟩
  · exact ⟨rfl, rfl⟩

theorem dqs_unlink {p : Policy} {x : Nat} (ho : Once p x) : Dqs (List.filter (· != x)) p (unlink p x) := by
  unfold unlink
  split
  · have h := cnt_discount p x
    have d := dqs_dqDelete (p := discount p x) (p.node x).qt (x := x) (by unfold Once; rw [h.window, h.probation, h.prot]; exact ho)
    unfold Dqs at d
    rw [h.window, h.probation, h.prot] at d
    exact d
  · rename_i hc
    have hx : x ∉ all p := fun hx => hc ((contains_iff_all p _ x).mpr hx)
    unfold all at hx
    simp only [List.mem_append, not_or] at hx
    exact ⟨(List.filter_bne_eq_self_of_not_mem hx.1).symm, (List.filter_bne_eq_self_of_not_mem hx.2.1).symm,
      (List.filter_bne_eq_self_of_not_mem hx.2.2).symm⟩

theorem markDead_self (p : Policy) (x : Nat) : ((markDead p x).node x).st = .dead := by
  unfold markDead
  split
  · rw [node_setNode_at p { p.node x with st := .dead } x rfl]
  · rename_i h; simpa using h

theorem markDead_other (p : Policy) (x id : Nat) (h : id ≠ x) : (markDead p x).node id = p.node id := by
  unfold markDead
  split
  · exact node_setNode_other p { p.node x with st := .dead } id h
  · rfl

theorem markDead_fields (p : Policy) (x : Nat) :
    (markDead p x).window = p.window ∧ (markDead p x).probation = p.probation ∧ (markDead p x).prot = p.prot ∧
    (markDead p x).weightedSize = p.weightedSize ∧ (markDead p x).maximum = p.maximum ∧
    (markDead p x).evicted = p.evicted := by
  unfold markDead
  split
  · exact ⟨rfl, rfl, rfl, rfl, rfl, rfl⟩
  · exact ⟨rfl, rfl, rfl, rfl, rfl, rfl⟩

theorem makeDead_dead (p : Policy) (x : Nat) : ((makeDead p x).node x).st = .dead := markDead_self _ x

theorem node_makeDead_other (p : Policy) (x id : Nat) (h : id ≠ x) : (makeDead p x).node id = p.node id :=
  (markDead_other _ x id h).trans (node_unlink p x id)

theorem evicted_makeDead (p : Policy) (x : Nat) : (makeDead p x).evicted = p.evicted :=
  (markDead_fields _ x).2.2.2.2.2.trans (unlink_fields p x).2

theorem dqs_makeDead {p : Policy} {x : Nat} (ho : Once p x) : Dqs (List.filter (· != x)) p (makeDead p x) :=
  have h := markDead_fields (unlink p x) x
  have d := dqs_unlink ho
  ⟨h.1.trans d.1, h.2.1.trans d.2.1, h.2.2.1.trans d.2.2⟩

theorem all_makeDead (p : Policy) (x : Nat) (hn : (all p).Nodup) : all (makeDead p x) = (all p).filter (· != x) :=
  (dqs_makeDead (once_of_nodup hn x)).all (fun _ _ => List.filter_append ..)

/-- `Kill x p p'`: p' is p with x unlinked (if it was linked) and dead; nothing else changed -/
def Kill (x : Nat) (p p' : Policy) : Prop :=
  all p' = (all p).filter (· != x) ∧ (p'.node x).st = .dead ∧ ∀ id, id ≠ x → (p'.node id).st = (p.node id).st

theorem LInv.kill {S : List Nat} {p p' : Policy} {x : Nat} (hi : LInv S p) (h : Kill x p p') : LInv S p' := by
  obtain ⟨h1, h2, h3⟩ := h
  refine ⟨fun id hid => ?_, fun id hs ha => ?_, ?_⟩
  · rw [h1, List.mem_filter] at hid
    have hne : id ≠ x := by simpa using hid.2
    rw [h3 id hne]; exact hi.a id hid.1
  · have hne : id ≠ x := fun e => by rw [e, h2] at ha; exact NState.noConfusion ha
    rw [h3 id hne] at ha
    rw [h1, List.mem_filter]
    exact ⟨hi.b id hs ha, by simpa using hne⟩
  · rw [h1]; exact hi.c.sublist List.filter_sublist

theorem kill_makeDead (p : Policy) (x : Nat) (hn : (all p).Nodup) : Kill x p (makeDead p x) :=
  ⟨all_makeDead p x hn, makeDead_dead p x, fun id hne => by rw [node_makeDead_other p x id hne]⟩

theorem evictNode_eq (p : Policy) (x : Nat) :
    evictNode p x = { makeDead p x with evicted := (makeDead p x).evicted ++ [x] } := rfl

theorem node_evictNode (p : Policy) (x id : Nat) : (evictNode p x).node id = (makeDead p x).node id :=
  node_congr (by rw [evictNode_eq]) id

theorem all_evictNode (p : Policy) (x : Nat) : all (evictNode p x) = all (makeDead p x) := by
  rw [evictNode_eq]; exact all_congr rfl rfl rfl

theorem evicted_evictNode (p : Policy) (x : Nat) : (evictNode p x).evicted = p.evicted ++ [x] :=
  congrArg (· ++ [x]) (evicted_makeDead p x)

theorem kill_evictNode (p : Policy) (x : Nat) (hn : (all p).Nodup) : Kill x p (evictNode p x) := by
  unfold Kill
  simp only [all_evictNode, node_evictNode]
  exact kill_makeDead p x hn

theorem evictNode_dead (p : Policy) (x : Nat) : ((evictNode p x).node x).st = .dead := by
  rw [node_evictNode]; exact makeDead_dead p x

theorem LInv.evictNode {S : List Nat} {p : Policy} (x : Nat) (hi : LInv S p) : LInv S (evictNode p x) :=
  hi.kill (kill_evictNode p x hi.c)

theorem LInv.delete {S : List Nat} {p : Policy} (x : Nat) (hi : LInv S p) : LInv S (delete p x) :=
  hi.kill (kill_makeDead p x hi.c)

/-! ### introduction of a node: add -/

theorem LInv.intro_unlinked {S : List Nat} {p : Policy} {id : Nat} (hi : LInv S p) (h : (p.node id).st ≠ .alive) :
    LInv (id :: S) p :=
  ⟨fun x hx => ⟨List.mem_cons_of_mem _ (hi.a x hx).1, (hi.a x hx).2⟩,
   fun x hs ha => by
     rcases List.mem_cons.mp hs with e | hs
     · subst e; exact absurd ha h
     · exact hi.b x hs ha,
   hi.c⟩

theorem LInv.intro_link {S : List Nat} {p p' : Policy} {id : Nat} (hi : LInv S p) (hs : id ∉ S)
    (hp : (all p').Perm (id :: all p)) (hst : ∀ x, (p'.node x).st = (p.node x).st) (hd : (p.node id).st ≠ .dead) :
    LInv (id :: S) p' := by
  have hnl : id ∉ all p := fun h => hs (hi.a id h).1
  refine ⟨fun x hx => ?_, fun x hx ha => ?_, ?_⟩
  · rw [hst x]
    rcases List.mem_cons.mp (hp.mem_iff.mp hx) with e | hx
    · subst e; exact ⟨List.mem_cons_self, hd⟩
    · exact ⟨List.mem_cons_of_mem _ (hi.a x hx).1, (hi.a x hx).2⟩
  · rw [hst x] at ha
    rcases List.mem_cons.mp hx with e | hx
    · subst e; exact hp.mem_iff.mpr List.mem_cons_self
    · exact hp.mem_iff.mpr (List.mem_cons_of_mem _ (hi.b x hx ha))
  · exact hp.nodup_iff.mpr (List.nodup_cons.mpr ⟨hnl, hi.c⟩)

/-- the counter/sketch prefix of `add`, copied from the text of Impl.Policy.add: `add_eq` checks by `rfl` that `add` is this
    prefix followed by the decision spelt out there, so an edit of the model needs the same edit here -/
def addPrefix (p : Policy) (id : Nat) : Policy :=
  let n := p.node id
  let w := w64 n.weight
  let p := if n.st == .alive then { p with weightedSize := p.weightedSize + w, windowWeightedSize := p.windowWeightedSize + w } else p
  let half : BitVec 64 := BitVec.ushiftRight p.maximum 1
  let p := if BitVec.ule half p.weightedSize then
      let cap : BitVec 64 := if p.isWeighted then w64 (p.window.length + p.probation.length + p.prot.length) else p.maximum
      p.ensure cap
    else p
  let p := p.sketchIncr n.key
  { p with missesInSample := p.missesInSample + 1 }

theorem add_eq (p : Policy) (id : Nat) : add p id =
    (let p0 := addPrefix p id
     let n := p.node id
     let w := w64 n.weight
     if n.st != .alive then p0
     else if BitVec.ult p0.maximum w then
       evictNode { p0 with weightedSize := p0.weightedSize - w, windowWeightedSize := p0.windowWeightedSize - w } id
     else if BitVec.ult p0.windowMaximum w then dqPushFront p0 0 id
     else dqPushBack p0 0 id) := rfl

/-- an alive node is counted before it is known whether it will be linked -/
theorem addPrefix_spec (p : Policy) (id : Nat) : Cnt p (addPrefix p id) ∧
    (addPrefix p id).weightedSize = (if (p.node id).st = .alive then p.weightedSize + w64 (p.node id).weight else p.weightedSize) ∧
    (addPrefix p id).windowWeightedSize =
      (if (p.node id).st = .alive then p.windowWeightedSize + w64 (p.node id).weight else p.windowWeightedSize) := by
  unfold addPrefix
  simp only
  by_cases h : (p.node id).st = .alive
  · simp only [h, BEq.rfl, ↓reduceIte]
    split <;> exact ⟨⟨rfl, rfl, rfl, rfl, rfl, rfl⟩, rfl, rfl⟩
  · have : ((p.node id).st == NState.alive) = false := by simpa using h
    simp only [this, h, Bool.false_eq_true, ↓reduceIte]
    split <;> exact ⟨⟨rfl, rfl, rfl, rfl, rfl, rfl⟩, rfl, rfl⟩

theorem cnt_addPrefix (p : Policy) (id : Nat) : Cnt p (addPrefix p id) := (addPrefix_spec p id).1

/-- what `add` does: it only counts (the node is not alive), or hands the node to the eviction callback on the spot (it alone
    exceeds the maximum), or links it in the window; `p0` is the state after the counting -/
inductive AddCase (p : Policy) (id : Nat) : Policy → Prop
  | skip {p0} : (p.node id).st ≠ .alive → Cnt p p0 → p0.weightedSize = p.weightedSize → AddCase p id p0
  | evict {p0} : (p.node id).st = .alive → BitVec.ult p.maximum (w64 (p.node id).weight) = true → Cnt p p0 →
      p0.weightedSize = p.weightedSize → AddCase p id (evictNode p0 id)
  | link {p0 p1} : (p.node id).st = .alive → BitVec.ult p.maximum (w64 (p.node id).weight) = false → Cnt p p0 →
      p0.weightedSize = p.weightedSize + w64 (p.node id).weight → Fr p0 p1 → (all p1).Perm (id :: all p0) → AddCase p id p1

theorem add_case (p : Policy) (id : Nat) : AddCase p id (add p id) := by
  have c := cnt_addPrefix p id
  have e := (addPrefix_spec p id).2.1
  rw [add_eq]
  simp only
  split
  · rename_i h
    have ha : (p.node id).st ≠ .alive := by simpa using h
    rw [if_neg ha] at e
    exact .skip ha c e
  · rename_i h
    have ha : (p.node id).st = .alive := by simpa using h
    rw [if_pos ha] at e
    split
    · rename_i hb
      rw [c.maximum] at hb
      refine .evict ha hb ⟨c.nodes, c.window, c.probation, c.prot, c.maximum, c.evicted⟩ ?_
      show (addPrefix p id).weightedSize - _ = _
      rw [e, BitVec.add_sub_cancel]
    · rename_i hb
      rw [c.maximum, Bool.not_eq_true] at hb
      split
      · exact .link ha hb c e (req_pushFront _ 0 id).fr (all_pushFront _ 0 id)
      · exact .link ha hb c e (req_pushBack _ 0 id).fr (all_pushBack _ 0 id)

theorem LInv.add {S : List Nat} {p : Policy} {id : Nat} (hi : LInv S p) (hs : id ∉ S) : LInv (id :: S) (add p id) := by
  have h := add_case p id
  generalize Policy.add p id = r at h ⊢
  cases h with
  | skip ha c _ => exact (hi.cnt c).intro_unlinked (by rw [c.node]; exact ha)
  | evict _ _ c _ =>
    exact ((hi.cnt c).evictNode id).intro_unlinked (by rw [evictNode_dead]; exact fun e => NState.noConfusion e)
  | link ha _ c _ f hp =>
    exact (hi.cnt c).intro_link hs hp f.st (by rw [c.node, ha]; exact fun e => NState.noConfusion e)

/-! ### introduction of a node: update (the new node takes the place of the old one) -/

def repl (old n : Nat) (x : Nat) : Nat := if x == old then n else x

theorem map_repl_of_not_mem (l : List Nat) (old n : Nat) (h : old ∉ l) : l.map (repl old n) = l :=
  (List.map_congr_left fun a ha => if_neg fun (e : (a == old) = true) => h (eq_of_beq e ▸ ha)).trans (List.map_id' l)

theorem all_dqUpdateNode (p : Policy) (q n old : Nat) (h : (all p).Nodup) :
    all (dqUpdateNode p q n old) = (all p).map (repl old n) := by
  exact (dqs_onLinked (once_of_nodup h old) (map_repl_of_not_mem · old n)).all (fun _ _ => List.map_append ..)

theorem req_dqUpdateNode (p : Policy) (q n old : Nat) : Req p (dqUpdateNode p q n old) := req_onLinked p old _

theorem perm_map_repl {l : List Nat} (old n : Nat) (hl : l.Nodup) (ho : old ∈ l) :
    (l.map (repl old n)).Perm (n :: l.erase old) := by
  refine ((List.perm_cons_erase ho).map _).trans ?_
  rw [List.map_cons, map_repl_of_not_mem _ _ _ hl.not_mem_erase, repl, if_pos (beq_self_eq_true old)]

theorem LInv.replace {S : List Nat} {p p' : Policy} {id old : Nat} (hi : LInv S p) (hs : id ∉ S) (ho : old ∈ all p)
    (hall : all p' = (all p).map (repl old id)) (hid : (p'.node id).st = (p.node id).st) (hnd : (p.node id).st ≠ .dead)
    (hod : (p'.node old).st = .dead) (hoth : ∀ x, x ≠ id → x ≠ old → (p'.node x).st = (p.node x).st) :
    LInv (id :: S) p' := by
  have hne : id ≠ old := fun e => hs (e ▸ (hi.a old ho).1)
  -- the removal of `old` followed by the linking of `id`
  have h1 : LInv S (makeDead p old) := hi.delete old
  refine h1.intro_link hs ?_ (fun x => ?_) ?_
  · rw [hall, all_makeDead p old hi.c, ← hi.c.erase_eq_filter]
    exact perm_map_repl old id hi.c ho
  · by_cases e : x = old
    · rw [e, hod, makeDead_dead]
    · rw [node_makeDead_other p old x e]
      by_cases e2 : x = id
      · rw [e2, hid]
      · exact hoth x e2 e
  · rw [node_makeDead_other p old id hne]
    exact hnd

theorem all_updateNode (p : Policy) (id old : Nat) (hn : (all p).Nodup) :
    all (updateNode p id old) = (all p).map (repl old id) := by
  have c := cnt_discount (p.setNode { p.node id with qt := (p.node old).qt }) old
  rw [updateNode, all_setNode, all_dqUpdateNode _ _ _ _ (by rw [c.all]; exact hn), c.all, all_setNode]

theorem node_updateNode_old (p : Policy) (id old : Nat) : ((updateNode p id old).node old).st = .dead := by
  rw [updateNode, node_setNode_at _ _ old rfl]

theorem st_updateNode (p : Policy) (id old x : Nat) (h : x ≠ old) : ((updateNode p id old).node x).st = (p.node x).st := by
  rw [updateNode, node_setNode_other _ _ _ (by exact h), (req_dqUpdateNode _ _ id old).node, (cnt_discount _ old).node]
  exact node_setNode_congr Node.st p { p.node id with qt := (p.node old).qt } rfl x

theorem LInv.updateNode {S : List Nat} {p : Policy} {id old : Nat} (hi : LInv S p) (hs : id ∉ S) (ho : old ∈ all p)
    (hnd : (p.node id).st ≠ .dead) : LInv (id :: S) (updateNode p id old) := by
  have hne : id ≠ old := fun e => hs (e ▸ (hi.a old ho).1)
  exact hi.replace hs ho (all_updateNode p id old hi.c) (st_updateNode p id old id hne) hnd
    (node_updateNode_old p id old) (fun x _ h => st_updateNode p id old x h)

/-- what `update` does after `updateNode`, copied from the text of Impl.Policy.update: `update_eq` checks by `rfl` that `update`
    ends in it, so an edit of the model needs the same edit here -/
def updateTail (p : Policy) (id : Nat) (w : BitVec 64) : Policy :=
  let n := p.node id
  if n.qt == 0 then
    let p := { p with windowWeightedSize := p.windowWeightedSize + w }
    if BitVec.ult p.maximum w then evictNode { p with weightedSize := p.weightedSize + w } id
    else
      let p := if BitVec.ule w p.windowMaximum then access p id
               else if dqContains p 0 id then dqMoveToFront p 0 id else p
      { p with weightedSize := p.weightedSize + w }
  else if n.qt == 1 then
    if BitVec.ule w p.maximum then { access p id with weightedSize := (access p id).weightedSize + w }
    else evictNode { p with weightedSize := p.weightedSize + w } id
  else
    let p := { p with mainProtectedWeightedSize := p.mainProtectedWeightedSize + w }
    if BitVec.ule w p.maximum then { access p id with weightedSize := (access p id).weightedSize + w }
    else evictNode { p with weightedSize := p.weightedSize + w } id

theorem update_eq (p : Policy) (id old : Nat) : update p id old =
    (if (p.node id).st == .dead then delete p old
     else if !(dqContains p (p.node old).qt old) then
       (if ((makeDead p old).node id).st == .alive then add (makeDead p old) id else makeDead p old)
     else updateTail (updateNode p id old) id (w64 (p.node id).weight)) := rfl

/-- What moves and evictions keep, `updateTail` keeps, starting from the state with the new weight counted.  (The model counts
    it last; the counting commutes with the moves, `Mv.count`, and seen as done first it leaves no state on the way outside
    the invariants.)  The counter of the node's queue takes the new weight and the node is re-queued as after an access; it is
    handed to the eviction callback if it alone exceeds the maximum. -/
theorem updateTail_preserves {I : Policy → Prop} (hm : ∀ {p p'}, Mv p p' → I p → I p') (he : ∀ p x, I p → I (evictNode p x))
    {p : Policy} (id : Nat) (w : BitVec 64) (h : I { p with weightedSize := p.weightedSize + w }) : I (updateTail p id w) := by
  have h0 : Mv p { p with windowWeightedSize := p.windowWeightedSize + w } := .of_fields rfl rfl rfl rfl rfl rfl rfl
  have h2 : Mv p { p with mainProtectedWeightedSize := p.mainProtectedWeightedSize + w } := .of_fields rfl rfl rfl rfl rfl rfl rfl
  -- by the node's queue: the window (case1, case2), probation (case3, case4), protected (case5, case6)
  fun_cases Policy.updateTail p id w
  case case1 => exact he _ id (hm (h0.count w) h)
  case case2 p0 _ p1 =>
    refine hm (Mv.count (h0.trans (?_ : Mv p0 p1)) w) h
    -- in the window the node counts as accessed only if it fits the window; otherwise it goes to the front
    show Mv p0 (if _ then _ else _)
    split
    · exact mv_access _ id
    · split
      · rename_i hc
        exact mv_moveToFront _ 0 id ((contains_iff_all _ 0 id).mp hc)
      · exact Mv.refl _
  case case3 => exact hm ((mv_access p id).count w) h
  case case4 => exact he _ id h
  case case5 => exact hm ((h2.trans (mv_access _ id)).count w) h
  case case6 => exact he _ id (hm (h2.count w) h)

theorem LInv.updateTail {S : List Nat} {p : Policy} (id : Nat) (w : BitVec 64) (hi : LInv S p) :
    LInv S (updateTail p id w) :=
  updateTail_preserves (fun m h => h.mv m) (fun _ x h => h.evictNode x) id w (hi.congr rfl rfl rfl rfl)

/-- `update` by cases: the new node is dead already (what is left of the event is the removal of `old`); `old` is unknown to the
    policy (the new node is a new arrival if it is alive, and ignored if not); `old` is linked and the new node takes its place -/
inductive UpdateCase (p : Policy) (id old : Nat) : Policy → Prop
  | gone : (p.node id).st = .dead → UpdateCase p id old (makeDead p old)
  | arrival : (p.node id).st ≠ .dead → ((makeDead p old).node id).st = .alive → UpdateCase p id old (add (makeDead p old) id)
  | stale : (p.node id).st ≠ .dead → ((makeDead p old).node id).st ≠ .alive → UpdateCase p id old (makeDead p old)
  | swap : (p.node id).st ≠ .dead → old ∈ all p →
      UpdateCase p id old (updateTail (updateNode p id old) id (w64 (p.node id).weight))

theorem update_case (p : Policy) (id old : Nat) : UpdateCase p id old (update p id old) := by
  rw [update_eq]
  split
  · rename_i h
    exact .gone (by simpa using h)
  · rename_i h
    have hnd : (p.node id).st ≠ .dead := by simpa using h
    split
    · split
      · rename_i h2
        exact .arrival hnd (by simpa using h2)
      · rename_i h2
        exact .stale hnd (by simpa using h2)
    · rename_i h2
      exact .swap hnd ((contains_iff_all p _ old).mp (by simpa using h2))

theorem LInv.update {S : List Nat} {p : Policy} {id : Nat} (old : Nat) (hi : LInv S p) (hs : id ∉ S) :
    LInv (id :: S) (update p id old) := by
  have h := update_case p id old
  generalize Policy.update p id old = r at h ⊢
  have h1 : LInv S (makeDead p old) := hi.delete old
  cases h with
  | gone hd =>
    refine h1.intro_unlinked ?_
    by_cases e : id = old
    · rw [e, makeDead_dead]; exact nofun
    · rw [node_makeDead_other p old id e, hd]; exact nofun
  | arrival => exact h1.add hs
  | stale _ hna => exact h1.intro_unlinked hna
  | swap hnd ho => exact (hi.updateNode hs ho hnd).updateTail id _

/-! ### eviction -/

theorem next_mem (p : Policy) (id x : Nat) (h : next p id = some x) : x ∈ all p := by
  unfold next at h
  split at h
  · cases h
  · rename_i q _
    simp only at h
    split at h
    · rename_i a b c heq
      have hx : x = b := by injection h with h; exact h.symm
      subst hx
      have : x ∈ List.dropWhile (fun y => y != id) (dq p q) := by rw [heq]; simp
      exact dq_sub_all p q x ((List.dropWhile_sublist _).subset this)
    · cases h

theorem head_mem (p : Policy) (q x : Nat) (h : (dq p q).head? = some x) : x ∈ all p :=
  dq_sub_all p q x (List.mem_of_mem_head? (by rw [h]; exact rfl))

/-- the window pass, as a PAIR and not an `Mv`: the two halves of `Mv` are stated apart, because the permutation needs the
    pointer `n` to be linked and the frame does not -/
theorem mv_evictFromWindow_go (p : Policy) (n first : Option Nat) (fuel : Nat) :
    Fr p (evictFromWindow.go p n first fuel).1 ∧
    ((all p).Nodup → (∀ id, n = some id → id ∈ all p) → (all (evictFromWindow.go p n first fuel).1).Perm (all p)) := by
  fun_induction evictFromWindow.go p n first fuel with
  -- the loop ends: out of fuel, the window within its maximum, or no node left
  | case1 | case2 | case3 => exact ⟨Fr.refl _, fun _ _ => .refl _⟩
  -- node `id` goes to probation: `p1` has its queue type written, `p3` has it re-queued, `p4` has it counted out of the
  -- window; case5: a weightless node is passed by
  | case4 p _ _ _ id _ _ _ p1 _ p3 _ p4 ih =>
    have s1 : Mv p p1 := (Mv.refl p).setQt id 1
    have s3 : Mv p3 p4 := .of_fields rfl rfl rfl rfl rfl rfl rfl
    -- between `p1` and `p3` the frame holds as it stands; the re-queueing is a move if `id` is linked
    have f : Fr p p4 := ((s1.toFr.trans (req_dqDelete p1 0 id).fr).trans (req_pushBack _ 1 id).fr).trans s3.toFr
    refine ⟨f.trans ih.1, fun hn hmem => ?_⟩
    have m : Mv p p4 := (s1.trans (mv_delete_pushBack p1 0 1 id (hmem id rfl))).trans s3
    exact (ih.2 (m.nodup hn) (fun y hy => (m.mem hn).mpr (next_mem p id y hy))).trans (m.perm hn)
  | case5 p _ _ _ id _ _ _ ih => exact ⟨ih.1, fun hn _ => ih.2 hn (next_mem p id)⟩

theorem mv_evictFromWindow (p : Policy) : Mv p (evictFromWindow p).1 :=
  ⟨(mv_evictFromWindow_go p _ _ _).1, fun hn => (mv_evictFromWindow_go p _ _ _).2 hn (fun id h => head_mem p 0 id h)⟩

theorem Draw.cnt {p p0 : Policy} (h : Draw p p0) : Cnt p p0 := by
  obtain ⟨r, rfl⟩ := h.eq
  exact ⟨rfl, rfl, rfl, rfl, rfl, rfl⟩

theorem cnt_admit (p : Policy) (c v : Nat) : Cnt p (admit p c v).1 := (Draw.yes c v).cnt

theorem LInv.draw {S : List Nat} {p p0 : Policy} (hi : LInv S p) (hd : Draw p p0) : LInv S p0 := hi.cnt hd.cnt

theorem LInv.admit {S : List Nat} {p : Policy} (c v : Nat) (hi : LInv S p) : LInv S (admit p c v).1 :=
  hi.draw (.yes c v)

theorem LInv.evictNodes {S : List Nat} {p : Policy} (hi : LInv S p) : LInv S (evictNodes p) :=
  (just_evictNodes p).preserves (fun _ x h => h.evictNode x) (fun _ a b h => h.admit a b) (hi.mv (mv_evictFromWindow p))

/-! ### the hill climber only moves nodes between the queues -/

theorem mv_determineAdjustment (p : Policy) : Mv p (determineAdjustment p) := by
  fun_cases determineAdjustment p
  · exact .of_fields rfl rfl rfl rfl rfl rfl rfl
  · exact Mv.refl p
  · exact .of_fields rfl rfl rfl rfl rfl rfl rfl

theorem mv_demote_go (p : Policy) (sz : BitVec 64) (i : Nat) : Mv p (demoteFromMainProtected.go p sz i).1 := by
  fun_induction demoteFromMainProtected.go p sz i with
  -- the loop ends: out of fuel, protected within its maximum, or empty
  | case1 | case2 | case3 => exact Mv.refl _
  -- the head `d` of protected goes to probation: `p1` without it, `p2` with its queue type written
  | case4 p _ _ _ d rest heq _ p1 p2 _ ih =>
    -- `p1` is `dqDelete p 2 d` only if d occurs once: the head is taken off as it stands
    have f1 : Fr p p1 := Req.fr ⟨rfl, rfl, rfl, rfl⟩
    refine Mv.trans ⟨(f1.setQt d 1).trans (req_pushBack p2 1 d).fr, fun _ => (all_pushBack p2 1 d).trans ?_⟩ ih
    show (d :: (p.window ++ (p.probation ++ rest))).Perm (all p)
    unfold all
    rw [heq, ← List.append_assoc, ← List.append_assoc]
    exact List.perm_middle.symm

theorem mv_demote (p : Policy) : Mv p (demoteFromMainProtected p) := by
  unfold demoteFromMainProtected
  split
  · exact Mv.refl p
  · simp only
    exact (mv_demote_go p _ _).trans (.of_fields rfl rfl rfl rfl rfl rfl rfl)

theorem incPick_mem (p : Policy) (quota : Int) (c : Nat) (h : (incPick p quota).1 = some c) : c ∈ all p := by
  unfold incPick at h
  split at h
  · rename_i c0 h0
    split at h
    · exact head_mem p 2 c h
    · injection h with h; subst h; exact head_mem p 1 _ h0
  · exact head_mem p 2 c h

theorem mv_incMove (p : Policy) (c : Nat) (b : Bool) (hc : c ∈ all p) : Mv p (incMove p c b) := by
  unfold incMove
  simp only
  -- unlinked from its main queue, counted in the window and linked there
  have relink (p1 : Policy) (q : Nat) (h1 : Mv p p1) (hc1 : c ∈ all p1) :=
    have f : Fr (dqDelete p1 q c) { dqDelete p1 q c with
        windowWeightedSize := (dqDelete p1 q c).windowWeightedSize + w64 (p.node c).weight } := Req.fr ⟨rfl, rfl, rfl, rfl⟩
    (h1.trans (mv_relink hc1 (f.trans (req_pushBack _ 0 c).fr) (all_pushBack _ 0 c))).setQt c 0
  split
  · exact relink p 1 (Mv.refl p) hc
  · exact relink _ 2 (.of_fields rfl rfl rfl rfl rfl rfl rfl) hc

theorem mv_increase_go (p : Policy) (quota : Int) (i : Nat) : Mv p (increaseWindow.go p quota i).1 := by
  fun_induction increaseWindow.go p quota i with
  -- the loop ends: out of fuel, nothing to pick, or the quota used up; case4: one node moved
  | case1 | case2 | case3 => exact Mv.refl _
  | case4 p quota _ c hc _ _ ih => exact (mv_incMove p c _ (incPick_mem p quota c hc)).trans ih

theorem mv_increaseWindow (p : Policy) : Mv p (increaseWindow p) := by
  unfold increaseWindow
  split
  · exact Mv.refl p
  · simp only
    generalize (if BitVec.ult p.mainProtectedMaximum (iToU64 p.adjustment) then (p.mainProtectedMaximum.toNat : Int) else p.adjustment) = quota
    have h0 : Mv p { p with mainProtectedMaximum := p.mainProtectedMaximum - iToU64 quota, windowMaximum := p.windowMaximum + iToU64 quota } :=
      .of_fields rfl rfl rfl rfl rfl rfl rfl
    exact ((h0.trans (mv_demote _)).trans (mv_increase_go _ quota 1000)).trans (.of_fields rfl rfl rfl rfl rfl rfl rfl)

theorem mv_decMove (p : Policy) (c : Nat) (hc : c ∈ all p) : Mv p (decMove p c) := by
  unfold decMove
  simp only
  have h1 : Mv p { p with windowWeightedSize := p.windowWeightedSize - iToU64 ((p.node c).weight : Int) } :=
    .of_fields rfl rfl rfl rfl rfl rfl rfl
  exact (h1.trans (mv_delete_pushBack _ 0 1 c hc)).setQt c 1

theorem mv_decrease_go (p : Policy) (quota : Int) (i : Nat) : Mv p (decreaseWindow.go p quota i).1 := by
  fun_induction decreaseWindow.go p quota i with
  | case1 | case2 | case3 => exact Mv.refl _
  | case4 p _ _ c hc _ _ ih => exact (mv_decMove p c (head_mem p 0 c hc)).trans ih

theorem mv_decreaseWindow (p : Policy) : Mv p (decreaseWindow p) := by
  unfold decreaseWindow
  split
  · exact Mv.refl p
  · simp only
    generalize (if BitVec.ult (p.windowMaximum - 1) (iToU64 (-p.adjustment)) then ((p.windowMaximum - 1).toNat : Int) else -p.adjustment) = quota
    have h0 : Mv p { p with mainProtectedMaximum := p.mainProtectedMaximum + iToU64 quota, windowMaximum := p.windowMaximum - iToU64 quota } :=
      .of_fields rfl rfl rfl rfl rfl rfl rfl
    exact (h0.trans (mv_decrease_go _ quota 1000)).trans (.of_fields rfl rfl rfl rfl rfl rfl rfl)

theorem mv_climb (p : Policy) : Mv p (climb p) := by
  unfold climb
  simp only
  have h2 := (mv_determineAdjustment p).trans (mv_demote _)
  split
  · exact h2
  · split
    · exact h2.trans (mv_increaseWindow _)
    · exact h2.trans (mv_decreaseWindow _)

theorem setMaximumSize_fields (p : Policy) (m : BitVec 64) :
    (setMaximumSize p m).nodes = p.nodes ∧ (setMaximumSize p m).window = p.window ∧
    (setMaximumSize p m).probation = p.probation ∧ (setMaximumSize p m).prot = p.prot ∧
    (setMaximumSize p m).weightedSize = p.weightedSize ∧ (setMaximumSize p m).evicted = p.evicted := by
  fun_cases setMaximumSize p m <;> exact ⟨rfl, rfl, rfl, rfl, rfl, rfl⟩

theorem LInv.setMaximumSize {S : List Nat} {p : Policy} (m : BitVec 64) (hi : LInv S p) : LInv S (setMaximumSize p m) :=
  have h := setMaximumSize_fields p m
  hi.congr h.1 h.2.1 h.2.2.1 h.2.2.2.1

/-! ### what the table does to nodes -/

theorem mkNode_self (p : Policy) (id key w : Nat) (st : NState) : ((mkNode p id key w st).node id).st = st :=
  congrArg Node.st (node_setNode_self p { id := id, key := key, weight := w, st := st })

theorem mkNode_other (p : Policy) (id key w : Nat) (st : NState) (x : Nat) (h : x ≠ id) :
    (mkNode p id key w st).node x = p.node x := by
  unfold mkNode; exact node_setNode_other _ _ _ h

theorem retire_other (p : Policy) (old x : Nat) (h : x ≠ old) : (retire p old).node x = p.node x := by
  unfold retire
  simp only
  split
  · exact node_setNode_other _ _ _ h
  · rfl

theorem retire_self (p : Policy) (old : Nat) (h : (p.node old).st = .alive) : ((retire p old).node old).st = .retired := by
  unfold retire
  simp only [h, beq_self_eq_true, ↓reduceIte]
  exact congrArg Node.st (node_setNode_self p { p.node old with st := .retired })

theorem retire_not_alive (p : Policy) (old : Nat) : ((retire p old).node old).st ≠ .alive := by
  by_cases h : (p.node old).st = .alive
  · rw [retire_self p old h]; exact fun e => NState.noConfusion e
  · unfold retire
    simp only [beq_iff_eq, h, ↓reduceIte]
    exact h

theorem LInv.setNode {S : List Nat} {p : Policy} (n : Node) (hi : LInv S p) (ha : n.id ∈ all p → n.st ≠ .dead)
    (hb : n.id ∈ S → n.st = .alive → (p.node n.id).st = .alive) : LInv S (p.setNode n) := by
  refine ⟨fun x hx => ?_, fun x hx hal => ?_, hi.c⟩
  · by_cases e : x = n.id
    · subst e; rw [node_setNode_self]; exact ⟨(hi.a _ hx).1, ha hx⟩
    · rw [node_setNode_other _ _ _ e]; exact hi.a x hx
  · by_cases e : x = n.id
    · subst e; rw [node_setNode_self] at hal; exact hi.b _ hx (hb hx hal)
    · rw [node_setNode_other _ _ _ e] at hal; exact hi.b x hx hal

theorem LInv.mkNode {S : List Nat} {p : Policy} (id key w : Nat) (st : NState) (hi : LInv S p) (hs : id ∉ S) :
    LInv S (mkNode p id key w st) :=
  hi.setNode _ (fun h => absurd (hi.a id h).1 hs) (fun h => absurd h hs)

theorem LInv.retire {S : List Nat} {p : Policy} (id : Nat) (hi : LInv S p) : LInv S (retire p id) := by
  unfold Policy.retire
  simp only
  split
  · exact hi.setNode _ (fun _ => nofun) (fun _ => nofun)
  · exact hi

/-! ### every reachable state -/

/-- The states of the policy reachable by ANY sequence of table actions (node creation, removal from the table) and
    maintenance actions (the write events add/update/delete in any order relative to each other and to evictions, reads,
    climbs and maximum changes).  `S` is the set of nodes whose introducing event has been processed; the only ordering
    assumption is that a node is introduced once (the table emits exactly one add or update for it). -/
inductive Reach : List Nat → Policy → Prop
  | init (p : Policy) : p.window = [] → p.probation = [] → p.prot = [] → p.weightedSize = 0 → Reach [] p
  | mk {S p} (id key w : Nat) (st : NState) : Reach S p → id ∉ S → Reach S (mkNode p id key w st)
  | retire {S p} (id : Nat) : Reach S p → Reach S (retire p id)
  | add {S p} (id : Nat) : Reach S p → id ∉ S → Reach (id :: S) (add p id)
  | update {S p} (id old : Nat) : Reach S p → id ∉ S → Reach (id :: S) (update p id old)
  | delete {S p} (id : Nat) : Reach S p → Reach S (delete p id)
  | access {S p} (id : Nat) : Reach S p → Reach S (access p id)
  | evict {S p} : Reach S p → Reach S (evictNodes p)
  | climb {S p} : Reach S p → Reach S (climb p)
  | setmax {S p} (m : BitVec 64) : Reach S p → Reach S (setMaximumSize p m)

theorem reach_inv {S : List Nat} {p : Policy} (h : Reach S p) : LInv S p := by
  induction h with
  | init p h0 h1 h2 _ =>
    have : all p = [] := by unfold all; rw [h0, h1, h2]; rfl
    refine ⟨fun id hid => ?_, fun id hs _ => ?_, ?_⟩
    · rw [this] at hid; cases hid
    · cases hs
    · rw [this]; exact List.nodup_nil
  | mk id key w st _ hs ih => exact ih.mkNode id key w st hs
  | retire id _ ih => exact ih.retire id
  | add id _ hs ih => exact ih.add hs
  | update id old _ hs ih => exact ih.update old hs
  | delete id _ ih => exact ih.delete id
  | access id _ ih => exact ih.mv (mv_access _ id)
  | evict _ ih => exact ih.evictNodes
  | climb _ ih => exact ih.mv (mv_climb _)
  | setmax m _ ih => exact ih.setMaximumSize m

end OtterVerif.Impl.Policy
