/-
  Proofs.SketchCount — the 4-bit counters of Impl.Sketch at word and table level: reading a counter is `nib`, the
  saturating increment adds one to exactly that counter (no carry into a neighbour, no wrap of the word), the estimate is the
  least of a key's four counters (their greatest lower bound: `le_frequencyH`), the aging step halves every counter, and the
  estimate of a key never under-counts within a sampling period.  The last needs every counter position to lie inside the
  table (`Layout`); that every table ensureCapacity builds has the layout rests on RoundUpPowerOf264 returning a multiple of 8
  whenever it returns at least 8, which is shown on the bits of its smeared word (`Covers`).
-/
import OtterVerif.Impl.Sketch
import OtterVerif.Proofs.Nibble
import OtterVerif.Proofs.BvFacts

namespace OtterVerif.Impl.Sketch
open OtterVerif OtterVerif.Nibble

/-! ### word level -/

/-- the value of counter j of word w as the code reads it -/
def readNib (w : BitVec 64) (j : BitVec 64) : BitVec 64 := (w >>> (j <<< 2).toNat) &&& 0xf

theorem shl2_toNat (j : BitVec 64) (hj : j.toNat < 16) : (j <<< 2).toNat = 4 * j.toNat := by
  rw [Bv.toNat_shiftLeft_of_lt j 2 (by omega)]
  omega

theorem readNib_eq_nib (w j : BitVec 64) (hj : j.toNat < 16) : (readNib w j).toNat = nib w.toNat j.toNat := by
  unfold readNib
  rw [BitVec.toNat_and, BitVec.toNat_ushiftRight, shl2_toNat j hj]
  exact shiftRight_and_15 _ _

/-- a nibble value shifted to counter position j stays inside the word -/
theorem shl_toNat (c j : BitVec 64) (hc : c.toNat < 16) (hj : j.toNat < 16) :
    (c <<< (j <<< 2).toNat).toNat = c.toNat <<< (4 * j.toNat) := by
  rw [shl2_toNat j hj, Nat.shiftLeft_eq]
  refine Bv.toNat_shiftLeft_of_lt c _ ?_
  calc c.toNat * 2 ^ (4 * j.toNat) ≤ 15 * 2 ^ 60 := Nat.mul_le_mul (by omega) (Nat.pow_le_pow_right (by decide) (by omega))
    _ < 2 ^ 64 := by decide

/-- the test of incrementAt in terms of the counter's value -/
theorem notfull_iff (w j : BitVec 64) (hj : j.toNat < 16) :
    ((w &&& ((0xf : BitVec 64) <<< (j <<< 2).toNat)) != ((0xf : BitVec 64) <<< (j <<< 2).toNat)) = true ↔ nib w.toNat j.toNat < 15 := by
  have := nib_lt_16 w.toNat j.toNat
  rw [bne_iff_ne, Ne, BitVec.toNat_eq, BitVec.toNat_and, shl_toNat 15 j (by decide) hj]
  show ¬ (w.toNat &&& 15 <<< (4 * j.toNat) = 15 <<< (4 * j.toNat)) ↔ _
  rw [and_mask_eq_iff]
  omega

theorem incr_word (w j : BitVec 64) (hj : j.toNat < 16) (hc : nib w.toNat j.toNat < 15) :
    (w + ((1 : BitVec 64) <<< (j <<< 2).toNat)).toNat = w.toNat + 16 ^ j.toNat := by
  rw [BitVec.toNat_add, shl_toNat 1 j (by decide) hj]
  show (w.toNat + 1 <<< (4 * j.toNat)) % 2 ^ 64 = _
  rw [Nat.one_shiftLeft, Nat.pow_mul]
  exact Nat.mod_eq_of_lt (add_no_wrap _ _ w.isLt hj hc)

theorem resetMask_nib : ∀ j : Fin 16, (Gen.SketchMix.resetMask >>> (4 * j.val)) &&& 15 = 7#64 := by decide

/-- the word-level effect of the aging step: the mask keeps the low three bits of every counter of the shifted word -/
theorem readNib_halved (w j : BitVec 64) (hj : j.toNat < 16) :
    readNib ((w >>> 1) &&& Gen.SketchMix.resetMask) j = (readNib w j) >>> 1 := by
  unfold readNib
  rw [shl2_toNat j hj]
  -- left side: the two shifts add up, and counter j of the mask is 7
  rw [BitVec.ushiftRight_and_distrib, BitVec.and_assoc, resetMask_nib ⟨j.toNat, hj⟩, ← BitVec.shiftRight_add, Nat.add_comm]
  -- right side: the same shifted word under `0xf >>> 1`, which `rfl` evaluates to 7
  rw [BitVec.ushiftRight_and_distrib, ← BitVec.shiftRight_add]
  rfl

/-! ### table level -/

/-- counter (slot, idx) of the table -/
def cnt (s : Sketch) (slot idx : BitVec 64) : Nat := nib (s.table.getD slot.toNat 0).toNat idx.toNat

theorem readCount_eq_cnt (s : Sketch) (slot idx : BitVec 64) (h : idx.toNat < 16) :
    (readCount s slot idx).toNat = cnt s slot idx := readNib_eq_nib _ idx h

theorem cnt_le_15 (s : Sketch) (slot idx : BitVec 64) : cnt s slot idx ≤ 15 :=
  Nat.le_of_lt_succ (nib_lt_16 _ _)

theorem getD_set {α : Type} (t : Array α) (i k : Nat) (v d : α) :
    (t.setIfInBounds i v).getD k d = if i = k ∧ i < t.size then v else t.getD k d := by
  simp only [Array.getD_eq_getD_getElem?, Array.getElem?_setIfInBounds]
  grind

theorem incrementAt_cnt (s : Sketch) (i j slot idx : BitVec 64) (hj : j.toNat < 16) :
    cnt (incrementAt s i j).1 slot idx =
      if (i.toNat = slot.toNat ∧ i.toNat < s.table.size) ∧ idx.toNat = j.toNat ∧ cnt s i j < 15 then cnt s slot idx + 1
      else cnt s slot idx := by
  have hiff := notfull_iff (s.table.getD i.toNat 0) j hj
  unfold incrementAt cnt
  by_cases hc : nib (s.table.getD i.toNat 0).toNat j.toNat < 15
  · simp only [if_pos (hiff.mpr hc)]
    rw [getD_set]
    by_cases hk : i.toNat = slot.toNat ∧ i.toNat < s.table.size
    · rw [if_pos hk, incr_word _ j hj hc]
      by_cases e : idx.toNat = j.toNat
      · rw [if_pos ⟨hk, e, hc⟩, ← hk.1, e, nib_incr_self _ _ hc]
      · rw [if_neg (fun h => e h.2.1), ← hk.1, nib_incr_other _ _ _ e hc]
    · rw [if_neg hk, if_neg (fun h => hk h.1)]
  · simp only [if_neg (fun h => hc (hiff.mp h))]
    rw [if_neg (fun h => hc h.2.2)]

/-- `s'` arises from `s` by bumping the counters at `ps`: none falls, each listed one that lies in the table rises
    (saturating at 15), and the shape of the sketch is unchanged -/
structure Bumped (ps : List (BitVec 64 × BitVec 64)) (s s' : Sketch) : Prop where
  tableSize : s'.table.size = s.table.size
  mask : s'.blockMask = s.blockMask
  init : s'.initialized = s.initialized
  mono : ∀ slot idx, cnt s slot idx ≤ cnt s' slot idx
  self : ∀ p ∈ ps, p.1.toNat < s.table.size → min 15 (cnt s p.1 p.2 + 1) ≤ cnt s' p.1 p.2

theorem Bumped.nil (s : Sketch) : Bumped [] s s := ⟨rfl, rfl, rfl, fun _ _ => Nat.le_refl _, nofun⟩

theorem Bumped.append {ps qs : List (BitVec 64 × BitVec 64)} {s s₁ s₂ : Sketch} (h₁ : Bumped ps s s₁) (h₂ : Bumped qs s₁ s₂) :
    Bumped (ps ++ qs) s s₂ := by
  refine ⟨h₂.tableSize.trans h₁.tableSize, h₂.mask.trans h₁.mask, h₂.init.trans h₁.init,
    fun slot idx => Nat.le_trans (h₁.mono slot idx) (h₂.mono slot idx), fun p hp hib => ?_⟩
  rcases List.mem_append.mp hp with hp | hp
  · exact Nat.le_trans (h₁.self p hp hib) (h₂.mono p.1 p.2)
  · have := h₂.self p hp (h₁.tableSize ▸ hib)
    have := h₁.mono p.1 p.2
    omega

theorem Bumped.finishNR {ps : List (BitVec 64 × BitVec 64)} {s : Sketch} {r : Sketch × Bool} (h : Bumped ps s r.1) :
    Bumped ps s (finishNR r) := by
  unfold Impl.Sketch.finishNR
  split
  · exact ⟨h.tableSize, h.mask, h.init, h.mono, h.self⟩
  · exact h

theorem incrementAt_bumped (s : Sketch) (i j : BitVec 64) (hj : j.toNat < 16) : Bumped [(i, j)] s (incrementAt s i j).1 := by
  have hc := fun slot idx => incrementAt_cnt s i j slot idx hj
  have hf : (incrementAt s i j).1.table.size = s.table.size ∧ (incrementAt s i j).1.blockMask = s.blockMask ∧
      (incrementAt s i j).1.initialized = s.initialized := by
    unfold incrementAt
    simp only
    split
    · exact ⟨Array.size_setIfInBounds, rfl, rfl⟩
    · exact ⟨rfl, rfl, rfl⟩
  refine ⟨hf.1, hf.2.1, hf.2.2, fun slot idx => ?_, fun p hp hib => ?_⟩
  · rw [hc]
    split <;> omega
  · cases List.mem_singleton.mp hp
    dsimp only at hib ⊢
    rw [hc]
    have := cnt_le_15 s i j
    split <;> omega

/-! ### the four counters of a key -/

/-- `increment` (unrolled) and `frequency` (loop) address the same four counters; facts about the positions are proved
    from the loop form, uniformly in the round -/
theorem counterPosUnrolled_eq_map (s : Sketch) (h : BitVec 64) :
    counterPosUnrolled s h = (List.range 4).map (counterPos s h) := by
  have : List.range 4 = [0, 1, 2, 3] := by decide
  rw [this]
  unfold counterPosUnrolled counterPos
  simp

theorem counterPos_idx (s : Sketch) (h : BitVec 64) (i : Nat) : (counterPos s h i).2.toNat < 16 :=
  Nat.lt_succ_of_le (Bv.toNat_and_le _ 15#64)

theorem counterPosUnrolled_idx (s : Sketch) (h : BitVec 64) : ∀ p ∈ counterPosUnrolled s h, p.2.toNat < 16 := by
  rw [counterPosUnrolled_eq_map, List.forall_mem_map]
  exact fun i _ => counterPos_idx s h i

theorem Bumped.counterPosUnrolled_eq {ps : List (BitVec 64 × BitVec 64)} {s s' : Sketch} (b : Bumped ps s s')
    (h : BitVec 64) : counterPosUnrolled s' h = counterPosUnrolled s h := by
  unfold counterPosUnrolled
  rw [b.mask]

theorem bumpAll_bumped (ps : List (BitVec 64 × BitVec 64)) (hidx : ∀ p ∈ ps, p.2.toNat < 16) (s : Sketch) (b : Bool) :
    Bumped ps s (bumpAll ps (s, b)).1 := by
  induction ps generalizing s b with
  | nil => exact Bumped.nil s
  | cons q qs ih =>
    -- `bumpAll (q :: qs) (s, b)` is `bumpAll qs` of the result of one `incrementAt` (`List.foldl_cons`, by `rfl`)
    exact (incrementAt_bumped s q.1 q.2 (hidx q List.mem_cons_self)).append (ih (fun p hp => hidx p (List.mem_cons_of_mem _ hp)) _ _)

theorem incrementNR_uninit (s : Sketch) (h : BitVec 64) (hi : s.initialized = false) : incrementNR s h = s := by
  unfold incrementNR; rw [hi]; rfl

theorem incrementNR_bumped (s : Sketch) (x : BitVec 64) (hi : s.initialized = true) :
    Bumped (counterPosUnrolled s x) s (incrementNR s x) := by
  have e : incrementNR s x = finishNR (bumpAll (counterPosUnrolled s x) (s, false)) := by
    unfold incrementNR; rw [hi]; exact if_neg (by decide)
  rw [e]
  exact (bumpAll_bumped _ (counterPosUnrolled_idx s x) s false).finishNR

/-! ### the estimate is the least of the key's four counters, said as: their greatest lower bound -/

theorem le_foldl_umin {α : Type} {w : Nat} (g : α → BitVec w) (l : List α) (a : BitVec w) (n : Nat) :
    n ≤ (l.foldl (fun f x => Bv.umin f (g x)) a).toNat ↔ n ≤ a.toNat ∧ ∀ x ∈ l, n ≤ (g x).toNat := by
  induction l generalizing a with
  | nil => simp
  | cons y l ih => rw [List.foldl_cons, ih, Bv.toNat_umin, List.forall_mem_cons, Nat.le_min, and_assoc]

theorem le_frequencyH (s : Sketch) (h : BitVec 64) (hi : s.initialized = true) (n : Nat) :
    n ≤ (frequencyH s h).toNat ↔ ∀ p ∈ counterPosUnrolled s h, n ≤ cnt s p.1 p.2 := by
  have key : frequencyH s h = (List.range 4).foldl (fun f i =>
      Bv.umin f (readCount s (counterPos s h i).1 (counterPos s h i).2)) (BitVec.allOnes 64) := by
    unfold frequencyH; rw [hi]; rfl
  rw [key, le_foldl_umin, counterPosUnrolled_eq_map, List.forall_mem_map]
  simp only [readCount_eq_cnt _ _ _ (counterPos_idx s h _)]
  refine and_iff_right_of_imp fun hle => ?_
  -- the start value is above every counter
  have := hle 0 (by decide)
  have := cnt_le_15 s (counterPos s h 0).1 (counterPos s h 0).2
  have : (BitVec.allOnes 64).toNat = 2 ^ 64 - 1 := by decide
  omega

/-! ### the table layout makes every position valid -/

/-- the table has 8 words per block and blockMask + 1 blocks -/
def Layout (s : Sketch) : Prop := s.table.size = 8 * (s.blockMask.toNat + 1)

theorem Bumped.layout {ps : List (BitVec 64 × BitVec 64)} {s s' : Sketch} (b : Bumped ps s s') (hl : Layout s) : Layout s' := by
  unfold Layout at *
  rw [b.tableSize, b.mask]
  exact hl

/-- word `o + c` of block `b` lies in a table of `m + 1` blocks of 8 words.  In sketch.go the block is
    `(blockHash & blockMask) << 3`, `o` is the low bit of the counter hash and `c = i << 1` for the rounds `i < 4`. -/
theorem slot_bound (m b o c : BitVec 64) (hb : b.toNat ≤ m.toNat) (hoc : o.toNat + c.toNat < 8) :
    ((b <<< 3) + o + c).toNat < 8 * (m.toNat + 1) := by
  have h0 : (b <<< 3).toNat ≤ b.toNat * 8 := by
    rw [BitVec.toNat_shiftLeft, Nat.shiftLeft_eq]; exact Nat.mod_le _ _
  have h1 : (b <<< 3 + o).toNat ≤ (b <<< 3).toNat + o.toNat := by
    rw [BitVec.toNat_add]; exact Nat.mod_le _ _
  have h2 : (b <<< 3 + o + c).toNat ≤ (b <<< 3 + o).toNat + c.toNat := by
    rw [BitVec.toNat_add]; exact Nat.mod_le _ _
  omega

theorem counterPosUnrolled_in_bounds (s : Sketch) (hl : Layout s) (h : BitVec 64) :
    ∀ p ∈ counterPosUnrolled s h, p.1.toNat < s.table.size := by
  rw [counterPosUnrolled_eq_map, List.forall_mem_map]
  intro i hi
  rw [List.mem_range] at hi
  rw [hl]
  refine slot_bound _ _ _ _ (Bv.toNat_and_le h s.blockMask) ?_
  have ho : (Gen.SketchMix.rehash h >>> (i <<< 3) &&& 1).toNat ≤ 1 := Bv.toNat_and_le _ 1
  rw [BitVec.toNat_ofNat, Nat.shiftLeft_eq i 1]
  omega

/-! ### a key's estimate never under-counts within a sampling period -/

theorem incrementNR_atLeast (s : Sketch) (h x : BitVec 64) (n : Nat) (hl : Layout s) (hi : s.initialized = true)
    (hlb : min 15 n ≤ (frequencyH s h).toNat) :
    min 15 (n + if x = h then 1 else 0) ≤ (frequencyH (incrementNR s x) h).toNat := by
  have b := incrementNR_bumped s x hi
  rw [le_frequencyH s h hi] at hlb
  rw [le_frequencyH _ h (b.init.trans hi), b.counterPosUnrolled_eq h]
  intro p hp
  have h1 := hlb p hp
  split
  · next e =>
    subst e
    have := b.self p hp (counterPosUnrolled_in_bounds s hl x p hp)
    omega
  · have := b.mono p.1 p.2
    omega

def occ (h : BitVec 64) (hs : List (BitVec 64)) : Nat := (hs.filter (· == h)).length

theorem occ_cons (h x : BitVec 64) (xs : List (BitVec 64)) : occ h (x :: xs) = (if x = h then 1 else 0) + occ h xs := by
  simp only [occ, ← List.countP_eq_length_filter, List.countP_cons, beq_iff_eq, Nat.add_comm]

/-- over a sequence of recordings `hs` (`incrementNR`, the recording step of `increment` without the aging): the estimate of
    key h gains, up to 15, the number of times h occurs in `hs` -/
theorem foldl_incrementNR_atLeast (hs : List (BitVec 64)) (h : BitVec 64) : ∀ (s : Sketch) (n : Nat), Layout s →
    s.initialized = true → min 15 n ≤ (frequencyH s h).toNat →
    min 15 (n + occ h hs) ≤ (frequencyH (hs.foldl incrementNR s) h).toNat := by
  induction hs with
  | nil => intro s n _ _ hlb; exact hlb
  | cons x xs ih =>
    intro s n hlay hi hlb
    have b := incrementNR_bumped s x hi
    rw [List.foldl_cons, occ_cons, ← Nat.add_assoc]
    exact ih _ _ (b.layout hlay) (b.init.trans hi) (incrementNR_atLeast s h x n hlay hi hlb)

/-! ### the aging step halves every counter -/

theorem reset_cnt (s : Sketch) (slot idx : BitVec 64) (hj : idx.toNat < 16) :
    cnt (reset s) slot idx = cnt s slot idx / 2 := by
  have hg : (reset s).table.getD slot.toNat 0 = ((s.table.getD slot.toNat 0) >>> 1) &&& Gen.SketchMix.resetMask := by
    show (s.table.map _).getD _ _ = _
    simp only [Array.getD_eq_getD_getElem?, Array.getElem?_map]
    cases s.table[slot.toNat]? with
    | none => decide
    | some w => rfl
  unfold cnt
  rw [hg, ← readNib_eq_nib _ idx hj, readNib_halved _ idx hj, BitVec.toNat_ushiftRight, readNib_eq_nib _ idx hj,
    Nat.shiftRight_eq_div_pow]

/-! ### RoundUpPowerOf264: the smeared word has all bits below its top bit set, so a result of at least 8 is a multiple of 8 -/

/-- bit i of x is the disjunction of the n bits of v from i upwards -/
def Covers (x v : BitVec 64) (n : Nat) : Prop := ∀ i, x.getLsbD i = true ↔ ∃ k, i ≤ k ∧ k < i + n ∧ v.getLsbD k = true

theorem covers_self (v : BitVec 64) : Covers v v 1 := fun i =>
  ⟨fun h => ⟨i, Nat.le_refl _, Nat.lt_succ_self _, h⟩,
   fun ⟨_, h1, h2, hb⟩ => Nat.le_antisymm h1 (Nat.le_of_lt_succ h2) ▸ hb⟩

theorem covers_step (x v : BitVec 64) (n : Nat) (h : Covers x v n) : Covers (x ||| (x >>> n)) v (2 * n) := by
  intro i
  rw [BitVec.getLsbD_or, BitVec.getLsbD_ushiftRight, Bool.or_eq_true, h i, h (n + i)]
  constructor
  · rintro (⟨k, h1, h2, hb⟩ | ⟨k, h1, h2, hb⟩)
    · exact ⟨k, h1, by omega, hb⟩
    · exact ⟨k, by omega, by omega, hb⟩
  · rintro ⟨k, h1, h2, hb⟩
    by_cases hlt : k < i + n
    · exact Or.inl ⟨k, h1, hlt, hb⟩
    · exact Or.inr ⟨k, by omega, by omega, hb⟩

/-- the smearing of RoundUpPowerOf264 -/
def smear (x : BitVec 64) : BitVec 64 :=
  let x := (x ||| (x >>> 1))
  let x := (x ||| (x >>> 2))
  let x := (x ||| (x >>> 4))
  let x := (x ||| (x >>> 8))
  let x := (x ||| (x >>> 16))
  (x ||| (x >>> 32))

theorem smear_covers (v : BitVec 64) : Covers (smear v) v 64 :=
  covers_step _ v 32 <| covers_step _ v 16 <| covers_step _ v 8 <| covers_step _ v 4 <| covers_step _ v 2 <|
    covers_step _ v 1 (covers_self v)

theorem smear_closed (v : BitVec 64) (i j : Nat) (hij : j ≤ i) (h : (smear v).getLsbD i = true) : (smear v).getLsbD j = true := by
  obtain ⟨k, h1, _, hb⟩ := (smear_covers v i).mp h
  have := BitVec.lt_of_getLsbD hb
  exact (smear_covers v j).mpr ⟨k, by omega, by omega, hb⟩

theorem smear_low (v : BitVec 64) (h7 : 7 ≤ (smear v).toNat) : (smear v).toNat % 8 = 7 := by
  obtain ⟨i, hi, hb⟩ := Nat.exists_ge_and_testBit_of_ge_two_pow (n := 2) (Nat.le_trans (by decide) h7)
  refine Nat.eq_of_testBit_eq fun j => ?_
  rw [show 8 = 2 ^ 3 from rfl, show 7 = 2 ^ 3 - 1 from rfl, Nat.testBit_mod_two_pow, Nat.testBit_two_pow_sub_one]
  by_cases hj : j < 3
  · rw [show (smear v).toNat.testBit j = true from smear_closed v i j (by omega) hb, Bool.and_true]
  · rw [decide_eq_false hj, Bool.false_and]

theorem roundUp_eq (m : BitVec 64) (hm : m ≠ 0) : Gen.Xmath.RoundUpPowerOf264 m = smear (m - 1) + 1 := by
  unfold Gen.Xmath.RoundUpPowerOf264
  rw [if_neg (by simpa using hm)]
  rfl

theorem roundUp_multiple (m : BitVec 64) (h8 : 8 ≤ (Gen.Xmath.RoundUpPowerOf264 m).toNat) :
    (Gen.Xmath.RoundUpPowerOf264 m).toNat % 8 = 0 := by
  by_cases hm : m = 0
  · subst hm
    have : (Gen.Xmath.RoundUpPowerOf264 0).toNat = 1 := by decide
    omega
  · rw [roundUp_eq m hm, BitVec.toNat_add] at h8 ⊢
    change 8 ≤ (_ + 1) % 2 ^ 64 at h8
    change (_ + 1) % 2 ^ 64 % 8 = 0
    have := smear_low (m - 1) (by omega)
    omega

/-! ### every table ensureCapacity builds has the layout -/

theorem layout_of_multiple (n ss : BitVec 64) (h8 : n.toNat % 8 = 0) (hge : 8 ≤ n.toNat) :
    Layout { table := Array.replicate n.toNat 0, sampleSize := ss, blockMask := (n >>> 3) - 1, size := 0, initialized := true } := by
  have e : (n >>> 3).toNat = n.toNat / 8 := by rw [BitVec.toNat_ushiftRight, Nat.shiftRight_eq_div_pow]
  unfold Layout
  simp only [Array.size_replicate]
  have h1 : (n >>> 3 - 1).toNat = (n >>> 3).toNat - 1 := Bv.toNat_sub_one (n >>> 3) (by omega)
  rw [h1, e]
  omega

/-- ensureCapacity, when it (re)allocates, builds a zeroed table of max(8, RoundUpPowerOf264(maximum)) words with the layout
    (for every requested maximum) and switches frequency tracking on -/
theorem ensureCapacity_layout (s : Sketch) (m : BitVec 64) (hch : (ensureCapacity s m).2 = true) :
    Layout (ensureCapacity s m).1 ∧ (ensureCapacity s m).1.initialized = true := by
  unfold ensureCapacity at hch ⊢
  split at hch
  · cases hch
  · next hle =>
    rw [if_neg hle]
    refine ⟨layout_of_multiple _ _ ?_ ?_, rfl⟩
    · split
      · decide
      · next h => exact roundUp_multiple m (by simpa [BitVec.ult] using h)
    · split
      · decide
      · next h => simpa [BitVec.ult] using h

end OtterVerif.Impl.Sketch
