/-
  Proofs.KeyList — a list read as a finite map through a key function `f`: `Prod.fst` for the association lists of `Spec.State`
  and `Impl.Table`, `Node.id` for the node store of `Impl.Policy`.  Lookup is `find? (f · == j)`, removal `filter (f · != k)`,
  an update removes and then conses.
-/
namespace OtterVerif

variable {α : Type} {f : α → Nat}

/-- the one list fact behind `erase`, `put`, `unlink`, `store` and `setNode` -/
theorem find?_filter_key (l : List α) (k j : Nat) :
    (l.filter (fun p => f p != k)).find? (fun p => f p == j) = if j = k then none else l.find? (fun p => f p == j) := by
  rw [List.find?_filter]
  split
  · subst j
    exact List.find?_eq_none.mpr fun p _ => by simp
  · rename_i h
    exact congrArg (List.find? · l) (funext fun p => by grind)

theorem find?_cons_filter_key (l : List α) (a : α) (j : Nat) :
    (a :: l.filter (fun p => f p != f a)).find? (fun p => f p == j) =
      if j = f a then some a else l.find? (fun p => f p == j) := by
  rw [List.find?_cons, find?_filter_key]
  by_cases h : j = f a
  · simp [h]
  · rw [show (f a == j) = false from beq_false_of_ne (Ne.symm h), if_neg h, if_neg h]

theorem find?_key_of_mem {l : List α} (h : (l.map f).Nodup) {p : α} (hp : p ∈ l) : l.find? (fun q => f q == f p) = some p := by
  obtain ⟨as, bs, rfl⟩ := List.append_of_mem hp
  rw [List.map_append, List.nodup_append] at h
  exact List.find?_eq_some_iff_append.mpr ⟨beq_self_eq_true _, as, bs, rfl, fun a ha =>
    bne_iff_ne.mpr (h.2.2 _ (List.mem_map_of_mem ha) _ (List.mem_map_of_mem List.mem_cons_self))⟩

theorem nodup_keys_filter {l : List α} (g : α → Bool) (h : (l.map f).Nodup) : ((l.filter g).map f).Nodup :=
  List.Nodup.sublist (List.Sublist.map _ List.filter_sublist) h

theorem not_mem_keys_filter (l : List α) (k : Nat) : k ∉ (l.filter (fun p => f p != k)).map f := by
  simp

theorem filter_key_absent {l : List α} {k : Nat} (h : k ∉ l.map f) : l.filter (fun p => f p != k) = l :=
  List.filter_eq_self.mpr fun p hp => bne_iff_ne.mpr fun he => h (List.mem_map.mpr ⟨p, hp, he⟩)

theorem perm_key_split {l : List α} (h : (l.map f).Nodup) (k : Nat) :
    (l.filter (fun p => f p != k) ++ (l.find? (fun p => f p == k)).toList).Perm l := by
  induction l with
  | nil => exact .refl _
  | cons p l ih =>
    rw [List.map_cons, List.nodup_cons] at h
    rw [List.filter_cons, List.find?_cons]
    cases hk : f p == k
    · rw [show (f p != k) = true by rw [bne, hk]; rfl]
      exact (ih h.2).cons p
    · rw [show (f p != k) = false by rw [bne, hk]; rfl, filter_key_absent (beq_iff_eq.mp hk ▸ h.1)]
      exact List.perm_append_singleton p l

end OtterVerif
