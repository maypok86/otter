/-
  Proofs.MapLemmas — the lemmas of `Spec.Core`'s definitions: the association list of `Spec.State` behaves as a finite map
  (lookup after an update, distinct keys), liveness in terms of the deadline, and what each primitive state change (`write`,
  `remove`, `touch`, `lookup`, `evict`, the completion of a call) does to each component of the state.  The property files
  reason from these instead of unfolding the operations.
-/
import OtterVerif.Spec.Core
import OtterVerif.Proofs.KeyList

namespace OtterVerif

namespace Spec

theorem find_nil (k : Nat) : find [] k = none := rfl

theorem find_cons (p : Nat × Entry) (m : List (Nat × Entry)) (k : Nat) :
    find (p :: m) k = if p.1 == k then some p.2 else find m k := by
  unfold find
  rw [List.find?_cons]
  cases p.1 == k <;> rfl

theorem find_erase (m : List (Nat × Entry)) (k j : Nat) : find (erase m k) j = if j = k then none else find m j := by
  unfold find erase
  rw [find?_filter_key]
  split <;> rfl

theorem find_put (m : List (Nat × Entry)) (k j : Nat) (e : Entry) :
    find (put m k e) j = if j = k then some e else find m j := by
  unfold find put erase
  rw [find?_cons_filter_key]
  split <;> rfl

theorem find_erase_self (m : List (Nat × Entry)) (k : Nat) : find (erase m k) k = none := by
  rw [find_erase, if_pos rfl]

theorem find_erase_other (m : List (Nat × Entry)) (k k' : Nat) (h : k' ≠ k) : find (erase m k) k' = find m k' := by
  rw [find_erase, if_neg h]

theorem find_put_self (m : List (Nat × Entry)) (k : Nat) (e : Entry) : find (put m k e) k = some e := by
  rw [find_put, if_pos rfl]

theorem find_put_other (m : List (Nat × Entry)) (k k' : Nat) (e : Entry) (h : k' ≠ k) :
    find (put m k e) k' = find m k' := by
  rw [find_put, if_neg h]

theorem mem_of_find {m : List (Nat × Entry)} {k : Nat} {e : Entry} (h : find m k = some e) : (k, e) ∈ m := by
  unfold find at h
  obtain ⟨p, hp, rfl⟩ := Option.map_eq_some_iff.mp h
  have hk : p.1 = k := by simpa using List.find?_some hp
  exact hk ▸ List.mem_of_find?_eq_some hp

theorem erase_of_find_none {m : List (Nat × Entry)} {k : Nat} (h : find m k = none) : erase m k = m := by
  unfold find at h
  rw [Option.map_eq_none_iff, List.find?_eq_none] at h
  exact List.filter_eq_self.mpr fun p hp => by simpa using h p hp

def WF (m : List (Nat × Entry)) : Prop := (m.map (·.1)).Nodup

theorem find_of_mem {m : List (Nat × Entry)} (h : WF m) {p : Nat × Entry} (hp : p ∈ m) : find m p.1 = some p.2 := by
  unfold find
  rw [find?_key_of_mem h hp]
  rfl

theorem WF_erase (m : List (Nat × Entry)) (k : Nat) (h : WF m) : WF (erase m k) := nodup_keys_filter _ h

theorem WF_put (m : List (Nat × Entry)) (k : Nat) (e : Entry) (h : WF m) : WF (put m k e) :=
  List.nodup_cons.mpr ⟨not_mem_keys_filter m k, WF_erase m k h⟩

theorem WF_nil : WF [] := by unfold WF; simp

/-! ### liveness -/

theorem live_some {s : State} {k : Nat} {e : Entry} : s.live k = some e ↔ s.phys k = some e ∧ s.now < e.exp := by
  unfold State.live Entry.liveAt
  rw [Option.filter_eq_some_iff, decide_eq_true_eq]

theorem live_none {s : State} {k : Nat} : s.live k = none ↔ ∀ e, s.phys k = some e → e.exp ≤ s.now := by
  unfold State.live Entry.liveAt
  simp only [Option.filter_eq_none_iff, decide_eq_true_eq, Int.not_lt]

/-- what an iteration yields: the entries of the map whose deadline lies ahead (the sorting only fixes the order) -/
theorem mem_liveEntries {s : State} {p : Nat × Entry} : p ∈ liveEntries s ↔ p ∈ s.m ∧ s.now < p.2.exp := by
  unfold liveEntries Entry.liveAt
  rw [List.mem_mergeSort, List.mem_filter, decide_eq_true_eq]

/-! ### what the primitive state changes do to each component of the state -/

theorem phys_write (c : Cfg) (s : State) (k v : Nat) (wk : WriteKind) (j : Nat) :
    (write c s k v wk).1.phys j =
      if j = k then some ⟨v, c.weigh k v, expAfterWrite c s.now k (s.live k), refAfterWrite c s.now k (s.live k) wk⟩
      else s.phys j :=
  find_put _ _ _ _

theorem phys_touch (c : Cfg) (s : State) (k : Nat) (e : Entry) (j : Nat) :
    (touch c s k e).phys j = if j = k then some { e with exp := expAfterRead c s.now k e } else s.phys j :=
  find_put _ _ _ _

/-- a removal erases the key, present or not -/
theorem remove_fst (s : State) (k : Nat) (cz : Cause) : (remove s k cz).1 = { s with m := erase s.m k } := by
  unfold remove
  cases h : s.phys k with
  | none => rw [erase_of_find_none h]
  | some o => rfl

theorem applyReloadFailure_frame (c : Cfg) (s : State) (k : Nat) :
    applyReloadFailure c s k = { s with m := (applyReloadFailure c s k).m } := by
  unfold applyReloadFailure
  split
  · split <;> rfl
  · rfl

theorem setExpiresAfter_frame (c : Cfg) (s : State) (k : Nat) (d : Int) :
    setExpiresAfter c s k d = { s with m := (setExpiresAfter c s k d).m } := by
  unfold setExpiresAfter
  split
  · split <;> rfl
  · rfl

theorem setRefreshableAfter_frame (c : Cfg) (s : State) (k : Nat) (d : Int) :
    setRefreshableAfter c s k d = { s with m := (setRefreshableAfter c s k d).m } := by
  unfold setRefreshableAfter
  split
  · split <;> rfl
  · rfl

theorem finishCall_frame (c : Cfg) (s : State) (k cid : Nat) (r fake : Bool) (o : LoadOutcome) :
    (finishCall c s k cid r fake o).1 =
      { (if s.inflightOf k == some cid then s.clearInflight k else s) with m := (finishCall c s k cid r fake o).1.m } := by
  unfold finishCall
  generalize (if s.inflightOf k == some cid then s.clearInflight k else s) = s2
  cases o <;> simp only <;> (try split) <;>
    first | rfl | rw [remove_fst] | exact applyReloadFailure_frame _ _ _

theorem phys_remove (s : State) (k : Nat) (cz : Cause) (j : Nat) :
    (remove s k cz).1.phys j = if j = k then none else s.phys j := by
  rw [remove_fst]
  exact find_erase _ _ _

/-- a failed reload moves at most the refresh deadline of the entry of `k` -/
theorem phys_applyReloadFailure (c : Cfg) (s : State) (k j : Nat) :
    (applyReloadFailure c s k).phys j =
      if j = k then
        (s.phys k).map fun e => { e with ref := if refFailDur c k > 0 then satAdd s.now (refFailDur c k) else e.ref }
      else s.phys j := by
  have hsame : s.phys j = if j = k then s.phys k else s.phys j := by
    split
    · subst j; rfl
    · rfl
  unfold applyReloadFailure
  cases hp : s.phys k with
  | none => rw [hp] at hsame; exact hsame
  | some e =>
    rw [hp] at hsame
    by_cases hd : refFailDur c k > 0
    · simp only [hd, ↓reduceIte, Option.map_some]
      exact find_put _ _ _ _
    · simp only [hd, ↓reduceIte, Option.map_some]
      exact hsame

/-- the unregistration that opens `finishCall` changes the in-flight table only; `write`, `remove` and `applyReloadFailure`, which
    come next, read the entries and the clock, and those of `{ s with inflight := i }` are by definition those of `s` -/
theorem unregister_eq (s : State) (k cid : Nat) :
    ∃ i, (if s.inflightOf k == some cid then s.clearInflight k else s) = { s with inflight := i } := by
  split <;> exact ⟨_, rfl⟩

theorem inflightOf_clear (s : State) (k j : Nat) :
    (s.clearInflight k).inflightOf j = if j = k then none else s.inflightOf j := by
  unfold State.clearInflight State.inflightOf
  rw [find?_filter_key]
  split <;> rfl

theorem inflightOf_clear_self (s : State) (k : Nat) : (s.clearInflight k).inflightOf k = none := by
  rw [inflightOf_clear, if_pos rfl]

/-- a write, a read and the deadline setters all re-insert one entry -/
theorem live_put (s : State) (k j : Nat) (e : Entry) :
    ({ s with m := put s.m k e } : State).live j = if j = k then (some e).filter (·.liveAt s.now) else s.live j := by
  unfold State.live State.phys
  rw [find_put]
  split <;> rfl

/-- … and a removal, explicit or automatic, erases one -/
theorem live_erase (s : State) (k j : Nat) :
    ({ s with m := erase s.m k } : State).live j = if j = k then none else s.live j := by
  unfold State.live State.phys
  rw [find_erase]
  split <;> rfl

theorem live_remove (s : State) (k : Nat) (cz : Cause) (j : Nat) :
    (remove s k cz).1.live j = if j = k then none else s.live j := by
  rw [remove_fst]
  exact live_erase s k j

theorem live_evictApply (s : State) (ev : Event) (e : Entry) (j : Nat) :
    (evictApply s ev e).live j = if j = ev.key then none else s.live j :=
  live_erase s ev.key j

theorem remove_stats (s : State) (k : Nat) (cz : Cause) : (remove s k cz).1.stats = s.stats := by rw [remove_fst]

theorem remove_inflight (s : State) (k : Nat) (cz : Cause) : (remove s k cz).1.inflight = s.inflight := by rw [remove_fst]

/-- Compute's critical section counts nothing: the lookup before it does -/
theorem computeStep_stats (c : Cfg) (s : State) (k : Nat) (act : Act) : (computeStep c s k act).1.stats = s.stats := by
  unfold computeStep
  cases act <;> simp only <;> (repeat' split) <;> first | rfl | exact remove_stats _ _ _

theorem lookup_some {c : Cfg} {s : State} {k : Nat} {e : Entry} (h : s.live k = some e) :
    lookup c s k = (touch c (hit s) k e, some { e with exp := expAfterRead c s.now k e }) := by
  unfold lookup
  rw [h]
  show (_, find (put _ k _) k) = _
  rw [find_put_self]
  rfl

theorem lookup_none {c : Cfg} {s : State} {k : Nat} (h : s.live k = none) : lookup c s k = (miss s, none) := by
  unfold lookup; rw [h]

theorem getIfPresent_some {c : Cfg} {s : State} {k : Nat} {e : Entry} (h : s.live k = some e) :
    getIfPresent c s k = (touch c (hit s) k e, .valOk e.val true) := by
  unfold getIfPresent; rw [lookup_some h]

theorem getIfPresent_none {c : Cfg} {s : State} {k : Nat} (h : s.live k = none) :
    getIfPresent c s k = (miss s, .valOk 0 false) := by
  unfold getIfPresent; rw [lookup_none h]

/-- the state a read leaves is the one its counted lookup leaves -/
theorem getIfPresent_fst (c : Cfg) (s : State) (k : Nat) : (getIfPresent c s k).1 = (lookup c s k).1 := by
  cases h : s.live k with
  | none => rw [getIfPresent_none h, lookup_none h]
  | some e => rw [getIfPresent_some h, lookup_some h]

theorem evict_some (cfg : Cfg) (s s' : State) (ev : Event) (h : evict cfg s ev = some s') :
    ∃ e, s.phys ev.key = some e ∧ e.val = ev.val ∧ evictOk cfg s ev e = true ∧ s' = evictApply s ev e := by
  unfold evict at h
  split at h
  · cases h
  · rename_i e he
    split at h
    · rename_i hc
      simp only [Bool.and_eq_true, beq_iff_eq] at hc
      exact ⟨e, he, hc.1, hc.2, by cases h; rfl⟩
    · cases h

/-- what `evict` accepts: an entry whose deadline has passed, as Expiration; a live one as Overflow, on a bounded cache under
    size pressure, unless its weight is zero -/
theorem evictOk_iff (cfg : Cfg) (s : State) (ev : Event) (e : Entry) :
    evictOk cfg s ev e = true ↔
      (ev.cause = .expiration ∧ e.exp ≤ s.now) ∨
      (ev.cause = .overflow ∧ cfg.bounded = true ∧ s.now < e.exp ∧ e.weight ≠ 0 ∧
        ∃ mx, s.maximum = some mx ∧ (s.totalWeight > mx ∨ e.weight > mx)) := by
  unfold evictOk Entry.liveAt
  cases ev.cause <;> cases s.maximum <;> simp [and_assoc]

end Spec
end OtterVerif
