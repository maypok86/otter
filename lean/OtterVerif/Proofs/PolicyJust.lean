/-
  Proofs.PolicyJust — every size eviction is justified at its moment (the converse of the bound, C07).

  `evictFromMain` hands a node to the eviction callback only in an iteration whose guard `weightedSize > maximum` held in the
  very state the node is removed from.  `Just p q` (Proofs.PolicyLoop) says: q is reached from p by a chain of such guarded
  evictions (and jitter draws of the admission test, which change neither the counters nor the deques).  Consequences: a
  policy within its maximum evicts nothing, and the first node evicted by a run was evicted from an over-full policy.
-/
import OtterVerif.Proofs.PolicyWeight

namespace OtterVerif.Impl.Policy

theorem Just.within {p q : Policy} (h : Just p q) (hb : BitVec.ult p.maximum p.weightedSize = false) :
    q.evicted = p.evicted := by
  induction h with
  | done p => rfl
  | evict p q x hg _ _ => rw [hb] at hg; cases hg
  | draw p q a b _ ih =>
    have c := cnt_admit p a b
    rw [ih (by rw [c.maximum, ws_admit]; exact hb), c.evicted]

theorem Just.first {p q : Policy} (h : Just p q) (hne : q.evicted ≠ p.evicted) :
    BitVec.ult p.maximum p.weightedSize = true := by
  cases hb : BitVec.ult p.maximum p.weightedSize with
  | true => rfl
  | false => exact absurd (h.within hb) hne

/-- **a policy within its maximum loses nothing to size eviction** -/
theorem evictNodes_within_bound (p : Policy) (hb : BitVec.ult p.maximum p.weightedSize = false) :
    (evictNodes p).evicted = p.evicted := by
  have hf := mv_evictFromWindow p
  rw [(just_evictNodes p).within (by rw [hf.max, hf.ws]; exact hb), hf.evicted]

/-- `add` hands the new node to the eviction callback only if its weight alone exceeds the maximum -/
theorem add_evicts_only_oversized (p : Policy) (id : Nat) (hw : BitVec.ult p.maximum (w64 (p.node id).weight) = false) :
    (add p id).evicted = p.evicted := by
  have h := add_case p id
  generalize add p id = r at h ⊢
  cases h with
  | skip _ c _ => exact c.evicted
  | evict _ hb _ _ => rw [hw] at hb; cases hb
  | link _ _ c _ f _ => exact f.evicted.trans c.evicted

end OtterVerif.Impl.Policy
