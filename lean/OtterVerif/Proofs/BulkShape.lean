/-
  Proofs.BulkShape — the shape of BulkGet (Spec.Bulk): for every state, request list (duplicates, hits, misses in any order)
  and loader answer (full, partial, extra keys, empty): the request is partitioned into hits and misses, and what the loader
  supplied for the misses is a sublist of them.  The consequences are stated in Props.C10.
-/
import OtterVerif.Spec.Bulk

namespace OtterVerif.Proofs.BulkShape
open OtterVerif.Spec

/-- the keys a plan has classified so far: hits first, then misses -/
def keysOf (p : BulkPlan) : List Nat := p.hits.map (·.1) ++ p.misses

theorem seen_iff (p : BulkPlan) (k : Nat) : bulkSeen p k = true ↔ k ∈ keysOf p := by
  unfold bulkSeen keysOf
  simp [List.mem_map]

/-- classifying a fresh key `k`, as a hit or as a miss, adds `k` and nothing else -/
theorem keys_cons {l l' : List Nat} {k : Nat} (hp : l'.Perm (k :: l)) (hk : k ∉ l) (hn : l.Nodup) :
    l'.Nodup ∧ ∀ x, x ∈ l' ↔ (x ∈ l ∨ x = k) :=
  ⟨hp.nodup_iff.mpr (List.nodup_cons.mpr ⟨hk, hn⟩), fun x => by rw [hp.mem_iff, List.mem_cons, or_comm]⟩

theorem step_keys (cfg : Cfg) (p : BulkPlan) (k : Nat) (hn : (keysOf p).Nodup) :
    (keysOf (bulkStep cfg p k)).Nodup ∧ ∀ x, x ∈ keysOf (bulkStep cfg p k) ↔ (x ∈ keysOf p ∨ x = k) := by
  unfold bulkStep
  by_cases hs : bulkSeen p k = true
  · rw [if_pos hs]
    have hk := (seen_iff p k).mp hs
    exact ⟨hn, fun x => ⟨Or.inl, fun h => h.elim id (fun h => h ▸ hk)⟩⟩
  · rw [if_neg hs]
    refine keys_cons ?_ (fun h => hs ((seen_iff p k).mpr h)) hn
    -- a hit joins the hits, a miss the misses: either way `k` is put somewhere among the keys
    unfold keysOf
    split
    · rw [List.map_append, List.append_assoc]
      exact List.perm_middle
    · rw [← List.append_assoc]
      exact List.perm_append_singleton k _

theorem fold_keys (cfg : Cfg) (ks : List Nat) (p : BulkPlan) (hn : (keysOf p).Nodup) :
    (keysOf (ks.foldl (bulkStep cfg) p)).Nodup ∧ ∀ x, x ∈ keysOf (ks.foldl (bulkStep cfg) p) ↔ (x ∈ keysOf p ∨ x ∈ ks) := by
  induction ks generalizing p with
  | nil => exact ⟨hn, fun x => by simp⟩
  | cons k t ih =>
    obtain ⟨h1, h2⟩ := step_keys cfg p k hn
    obtain ⟨h3, h4⟩ := ih (bulkStep cfg p k) h1
    exact ⟨h3, fun x => by rw [List.foldl_cons, h4, h2, List.mem_cons, or_assoc]⟩

/-- **the request is partitioned**: every requested key is classified exactly once (as a hit or as a miss), nothing else is -/
theorem plan_partition (cfg : Cfg) (s : State) (ks : List Nat) :
    (keysOf (bulkPlan cfg s ks)).Nodup ∧ ∀ x, x ∈ keysOf (bulkPlan cfg s ks) ↔ x ∈ ks := by
  have := fold_keys cfg ks { s := s } List.nodup_nil
  exact ⟨this.1, fun x => (this.2 x).trans ⟨fun h => h.elim (fun h => by cases h) id, Or.inr⟩⟩

theorem supplied_sublist (misses : List Nat) (kvs : List (Nat × Nat)) :
    ((bulkSupplied misses kvs).map (·.1)).Sublist misses := by
  unfold bulkSupplied
  induction misses with
  | nil => exact List.Sublist.slnil
  | cons k t ih =>
    rw [List.filterMap_cons]
    cases hf : kvs.find? (·.1 == k) with
    | none => simp only [Option.map_none]; exact List.Sublist.cons _ ih
    | some q => simp only [Option.map_some, List.map_cons]; exact List.Sublist.cons_cons _ ih

/-- the keys of the result, in order, are among the keys the plan classified: every hit, and the misses the loader supplied -/
theorem return_keys (p : BulkPlan) (kvs : List (Nat × Nat)) : ((bulkReturn p kvs).map (·.1)).Sublist (keysOf p) := by
  unfold bulkReturn keysOf
  rw [List.map_append]
  exact (supplied_sublist _ kvs).append_left _

theorem supplied_mem {misses : List Nat} {kvs : List (Nat × Nat)} {q : Nat × Nat} (h : q ∈ bulkSupplied misses kvs) :
    q.1 ∈ misses ∧ ∃ q', q' ∈ kvs ∧ q'.1 = q.1 ∧ q'.2 = q.2 := by
  unfold bulkSupplied at h
  rw [List.mem_filterMap] at h
  obtain ⟨k, hk, he⟩ := h
  cases hf : kvs.find? (·.1 == k) with
  | none => rw [hf] at he; cases he
  | some q' =>
    rw [hf] at he
    simp only [Option.map_some, Option.some.injEq] at he
    subst he
    have hm := List.mem_of_find?_eq_some hf
    have hp := List.find?_some hf
    exact ⟨hk, q', hm, by simpa using hp, rfl⟩

end OtterVerif.Proofs.BulkShape
