/-
  Proofs.PolicyGen — the hand-written policy model (Impl.Policy) against the REGENERATED pure computations of
  policy.go (Gen.Policy: every condition, counter update and assignment in the integer/boolean subset).

  `addG`, `updateG`, `discountG`, `reorderProbationG` are the model functions' control structure with every decision and
  every counter update replaced by the generated definition; that each equals the model function is `c04_gen_*` in
  Props.C04Gen — so the model's comparisons (`>` vs `>=`, which maximum, which counter, `+` vs `-`) are the code's, for all
  states.  For admit and the eviction loops the generated conditions are related to the model's decisions one by one, here.
  The control structure itself (which decision guards which update) is the transcription, exercised by UNIT-policy.
-/
import OtterVerif.Impl.Policy
import OtterVerif.Gen.Policy
import OtterVerif.Proofs.BvFacts

namespace OtterVerif.Proofs.PolicyGen
open OtterVerif OtterVerif.Impl.Policy

def addG (p : Policy) (id : Nat) : Policy :=
  let n := p.node id
  let w := w64 n.weight
  let alive := Gen.Policy.add_a1 (n.st == .alive)
  let p := if Gen.Policy.add_c0 alive then
      { p with weightedSize := Gen.Policy.add_u0 w p.weightedSize, windowWeightedSize := Gen.Policy.add_u1 w p.windowWeightedSize }
    else p
  let p := if Gen.Policy.add_c1 p.maximum p.weightedSize then
      let cap : BitVec 64 :=
        if Gen.Policy.add_c2 p.isWeighted then Gen.Policy.add_a3 (w64 p.probation.length) (w64 p.prot.length) (w64 p.window.length)
        else Gen.Policy.add_a2 p.maximum
      p.ensure cap
    else p
  let p := p.sketchIncr n.key
  let p := { p with missesInSample := Gen.Policy.add_u2 p.missesInSample }
  if Gen.Policy.add_c3 alive then p
  else if Gen.Policy.add_c4 w p.maximum then
    evictNode { p with weightedSize := Gen.Policy.add_u3 w p.weightedSize, windowWeightedSize := Gen.Policy.add_u4 w p.windowWeightedSize } id
  else if Gen.Policy.add_c5 w p.windowMaximum then dqPushFront p 0 id
  else dqPushBack p 0 id

def discountG (p : Policy) (id : Nat) : Policy :=
  let n := p.node id
  let w := w64 n.weight
  let p := if Gen.Policy.discount_c0 (n.qt == 0) then { p with windowWeightedSize := Gen.Policy.discount_u0 w p.windowWeightedSize }
           else if Gen.Policy.discount_c1 (n.qt == 2) then { p with mainProtectedWeightedSize := Gen.Policy.discount_u1 w p.mainProtectedWeightedSize } else p
  { p with weightedSize := Gen.Policy.discount_u2 w p.weightedSize }

def reorderProbationG (p : Policy) (id : Nat) : Policy :=
  let n := p.node id
  let w := w64 n.weight
  if Gen.Policy.reorderProbation_c0 (!(dqContains p 1 id)) then p
  else if Gen.Policy.reorderProbation_c1 w p.mainProtectedMaximum then reorder p 1 id
  else
    let p := { p with mainProtectedWeightedSize := Gen.Policy.reorderProbation_u0 w p.mainProtectedWeightedSize }
    let p := dqDelete p 1 id
    let p := dqPushBack p 2 id
    p.setNode { n with qt := 2 }

def updateG (p : Policy) (id old : Nat) : Policy :=
  let w := w64 (p.node id).weight
  if Gen.Policy.update_c0 ((p.node id).st == .dead) then delete p old
  else if Gen.Policy.update_c1 (dqContains p (p.node old).qt old) then  -- (the generated condition carries the negation)
    let p := makeDead p old
    if Gen.Policy.update_c2 ((p.node id).st == .alive) then add p id else p
  else
  let p := updateNode p id old
  let n := p.node id
  if Gen.Policy.update_c3 (n.qt == 0) then
    let p := { p with windowWeightedSize := Gen.Policy.update_u0 w p.windowWeightedSize }
    if Gen.Policy.update_c6 w p.maximum then evictNode { p with weightedSize := Gen.Policy.update_u1 w p.weightedSize } id
    else
      let p := if Gen.Policy.update_c7 w p.windowMaximum then access p id
               else if Gen.Policy.update_c8 (dqContains p 0 id) then dqMoveToFront p 0 id else p
      { p with weightedSize := Gen.Policy.update_u5 w p.weightedSize }
  else if Gen.Policy.update_c4 (n.qt == 1) then
    if Gen.Policy.update_c9 w p.maximum then { access p id with weightedSize := Gen.Policy.update_u5 w (access p id).weightedSize }
    else evictNode { p with weightedSize := Gen.Policy.update_u2 w p.weightedSize } id
  else
    let p := { p with mainProtectedWeightedSize := Gen.Policy.update_u3 w p.mainProtectedWeightedSize }
    if Gen.Policy.update_c10 w p.maximum then { access p id with weightedSize := Gen.Policy.update_u5 w (access p id).weightedSize }
    else evictNode { p with weightedSize := Gen.Policy.update_u4 w p.weightedSize } id

/-! ### admit -/

theorem jitter_eq (r : Nat) : Gen.Policy.admit_r1 (BitVec.ofNat 32 r) = ((r % 128) == 0) := by
  rw [Gen.Policy.admit_r1, Bv.beq_zero, Bv.toNat_and_mask _ _ 7 rfl, BitVec.toNat_ofNat,
    Nat.mod_mod_of_dvd r (Nat.pow_dvd_pow 2 (by decide : 7 ≤ 32))]

/-- the model's admission decision is the code's: strictly greater estimate; otherwise, with an estimate of at least the
    hash-flooding threshold, one random draw in 128; otherwise no -/
theorem admit_gen (p : Policy) (ck vk : Nat) :
    (admit p ck vk).2 =
      if Gen.Policy.admit_c0 (p.freq ck) (p.freq vk) then Gen.Policy.admit_r0
      else if Gen.Policy.admit_c1 (p.freq ck) then
        (match p.rands with
         | r :: _ => Gen.Policy.admit_r1 (BitVec.ofNat 32 r)
         | [] => false)
      else Gen.Policy.admit_r2 := by
  unfold admit Gen.Policy.admit_c0 Gen.Policy.admit_c1 Gen.Policy.admit_r0 Gen.Policy.admit_r2
  dsimp only
  split
  · rfl
  · -- the threshold as the model writes it, so that the two sides branch on the same test
    change _ = if BitVec.ule 6 (p.freq ck) = true then _ else _
    split
    · cases p.rands with
      | nil => rfl
      | cons r _ => exact (jitter_eq r).symm
    · rfl

/-! ### the eviction loops: the generated guards are the model's -/

theorem evictFromWindow_skip (w : Nat) (h : w < 2 ^ 64) : Gen.Policy.evictFromWindow_c2 (w64 w) = (w != 0) := by
  rw [Gen.Policy.evictFromWindow_c2, w64, bne, Bv.beq_zero, Bv.toNat_ofNat_lt w h, bne]

/-- a candidate that alone exceeds the maximum is evicted without consulting the sketch (weights are uint32 in the code) -/
theorem evictFromMain_oversized (p : Policy) (w : BitVec 32) :
    Gen.Policy.evictFromMain_c12 w p.maximum = BitVec.ult p.maximum (w64 w.toNat) := by
  unfold Gen.Policy.evictFromMain_c12 w64
  congr 1
  apply BitVec.eq_of_toNat_eq
  rw [BitVec.toNat_setWidth, BitVec.toNat_ofNat]

end OtterVerif.Proofs.PolicyGen
