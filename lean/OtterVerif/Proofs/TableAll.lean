/-
  Proofs.TableAll — InvalidateAll inside the refinement and the conservation law, on top of Proofs.TableEvict / TableConserve.

  `Impl.Table.invalidateAll` is shown to be what the code's loop computes (deleteNode for every collected key, `deleteAll`)
  on a table with one node per key, and to refine `Spec.invalidateAll` (same reports, empty map).  Histories (`YOp`) contain
  every operation of `XOp` (Proofs.TableEvict) plus InvalidateAll; the induction carries AllOk and NodupKeys.
-/
import OtterVerif.Proofs.TableConserve

namespace OtterVerif.Proofs.TableAll
open OtterVerif OtterVerif.Impl.Table OtterVerif.Proofs.TableRefine OtterVerif.Proofs.TableTrace OtterVerif.Proofs.TableEvict
open OtterVerif.Proofs.TableConserve
open OtterVerif.Spec (Cause Event Out Entry Cfg Kind)

/-- what `deleteNode` reports for the mapped pair `p`: an entry of `invalidateAll`'s report list -/
def invalidationEvent (now : Int) (p : Nat × TNode) : Event :=
  { key := p.2.key, val := p.2.val, cause := getCause p.2 now .invalidation }

theorem lookup_of_mem (t : Tbl) (h : NodupKeys t) (p : Nat × TNode) (hp : p ∈ t) : lookup t p.1 = some p.2 := by
  unfold lookup
  rw [find?_key_of_mem h hp]
  rfl

/-- on a table with one node per key, deleteNode for the first pair's key removes that pair and nothing else -/
theorem deleteNode_head (now : Int) (p : Nat × TNode) (rest : Tbl) (h : NodupKeys (p :: rest)) :
    deleteNode (p :: rest) p.1 true now = (rest, [invalidationEvent now p]) := by
  have hu : unlink (p :: rest) p.1 = rest := by
    rw [unlink, List.filter_cons_of_neg (by simp)]
    exact unlink_absent rest p.1 (List.nodup_cons.mp h).1
  rw [deleteNode, lookup_of_mem _ h p List.mem_cons_self, hu]
  rfl

theorem deleteAll_go (now : Int) : ∀ (t : Tbl) (acc : List Event), NodupKeys t →
    (t.map (·.1)).foldl (fun (a : Tbl × List Event) k => let r := deleteNode a.1 k true now; (r.1, a.2 ++ r.2)) (t, acc)
      = ([], acc ++ t.map (invalidationEvent now)) := by
  intro t
  induction t with
  | nil => intro acc _; simp
  | cons p rest ih =>
    intro acc h
    rw [List.map_cons, List.foldl_cons]
    simp only [deleteNode_head now p rest h]
    rw [ih _ (List.nodup_cons.mp h).2]
    simp

/-- **InvalidateAll's loop = the one-line model**, for a table with one node per key -/
theorem deleteAll_eq (t : Tbl) (now : Int) (h : NodupKeys t) : deleteAll t (t.map (·.1)) now = invalidateAll t now := by
  unfold deleteAll invalidateAll
  rw [deleteAll_go now t [] h]
  simp only [List.nil_append]
  rfl

theorem invalidateAll_refines (s : Spec.State) (t : Tbl) (hs : s.m = absT t) (hok : AllOk t) (hnd : NodupKeys t) :
    absT (invalidateAll t s.now).1 = (Spec.invalidateAll s).1.m ∧ (invalidateAll t s.now).2 = (Spec.invalidateAll s).2 := by
  refine ⟨rfl, ?_⟩
  unfold invalidateAll Spec.invalidateAll
  simp only
  rw [hs]
  unfold absT
  rw [List.map_map]
  apply List.map_congr_left
  intro p hp
  have hkey : p.2.key = p.1 := (hok p.1 p.2 (lookup_of_mem t hnd p hp)).1
  simp only [Function.comp, hkey, cause_eq]
  rfl

/-! ### histories -/

inductive YOp where
  | x (op : XOp)
  | invalidateAll

def yistep (c : Cfg) (s : IState) : YOp → IState × Out × List Event
  | .x op => xistep c s op
  | .invalidateAll => let r := invalidateAll s.t s.now; ({ s with t := r.1 }, .unit, r.2)

def ysstep (c : Cfg) (s : Spec.State) : YOp → Option (Spec.State × Out × List Event)
  | .x op => xsstep c s op
  | .invalidateAll => let r := Spec.invalidateAll s; some (r.1, .unit, r.2)

def yinstalls : YOp → Out → Nat
  | .x op, o => installs op o
  | .invalidateAll, _ => 0

theorem ystep_sim (c : Cfg) (is : IState) (ss : Spec.State) (op : YOp) (hm : ss.m = absT is.t) (hnow : ss.now = is.now)
    (hok : AllOk is.t) (hnd : NodupKeys is.t) (hn : InRange is.now) (hk1 : KindOk c.expiry) (hk2 : KindOk c.refresh)
    (hr : ReadOk c) (r : Spec.State × Out × List Event) (hacc : ysstep c ss op = some r) :
    r.1.m = absT (yistep c is op).1.t ∧ r.1.now = (yistep c is op).1.now ∧ (yistep c is op).2 = r.2 ∧
    AllOk (yistep c is op).1.t := by
  cases op with
  | x op => exact xstep_sim c is ss op hm hnow hok hn hk1 hk2 hr r hacc
  | invalidateAll =>
    obtain rfl := Option.some.inj hacc
    have h1 := invalidateAll_refines ss is.t hm hok hnd
    rw [hnow] at h1
    exact ⟨h1.1.symm, hnow, by show (Out.unit, _) = (Out.unit, _); rw [h1.2], allOk_nil⟩

theorem yistep_conserves (c : Cfg) (s : IState) (op : YOp) (h : NodupKeys s.t) :
    (yistep c s op).1.t.length + (yistep c s op).2.2.length = s.t.length + yinstalls op (yistep c s op).2.1 ∧
    NodupKeys (yistep c s op).1.t := by
  cases op with
  | x op => exact xistep_conserves c s op h
  | invalidateAll => exact ⟨by show 0 + (s.t.map _).length = s.t.length + 0; simp, nodup_nil⟩

def yirun (c : Cfg) : IState → List YOp → IState × List (Out × List Event)
  | s, [] => (s, [])
  | s, op :: rest => let r := yistep c s op; let q := yirun c r.1 rest; (q.1, r.2 :: q.2)

def ysrun (c : Cfg) : Spec.State → List YOp → Option (Spec.State × List (Out × List Event))
  | s, [] => some (s, [])
  | s, op :: rest =>
    match ysstep c s op with
    | none => none
    | some r => (ysrun c r.1 rest).map (fun q => (q.1, r.2 :: q.2))

theorem isRun_yirun (c : Cfg) : RunSim.IsRun (yistep c) (yirun c) := ⟨fun _ => rfl, fun _ _ _ => rfl⟩
theorem isRun_ysrun (c : Cfg) : RunSim.IsRunOpt (ysstep c) (ysrun c) :=
  ⟨fun _ => rfl, fun s op _ => by rw [ysrun]; cases ysstep c s op <;> rfl⟩

def YClockOk (now : Int) : List YOp → Prop
  | [] => InRange now
  | .x (.base (.advance d)) :: rest => InRange now ∧ YClockOk (now + d) rest
  | _ :: rest => InRange now ∧ YClockOk now rest

theorem yclockOk_cons (c : Cfg) (is : IState) (op : YOp) (rest : List YOp) (h : YClockOk is.now (op :: rest)) :
    InRange is.now ∧ YClockOk (yistep c is op).1.now rest := by
  cases op with
  | x o =>
    cases o with
    | base b => cases b <;> exact h
    | evict k same => exact h
  | invalidateAll => exact h

def yTotalInstalls : List YOp → List (Out × List Event) → Nat
  | op :: ops, r :: rs => yinstalls op r.1 + yTotalInstalls ops rs
  | _, _ => 0

theorem yhistory_conserves (c : Cfg) (ops : List YOp) (s : IState) (h : NodupKeys s.t) :
    (yirun c s ops).1.t.length + totalEvents (yirun c s ops).2 = s.t.length + yTotalInstalls ops (yirun c s ops).2 :=
  (RunSim.run_conserves (isRun_yirun c) (fun s => NodupKeys s.t) (fun s => s.t.length) (fun op r => yinstalls op r.1)
    (fun r => r.2.length) (yistep_conserves c) rfl (fun _ _ _ _ => rfl) ops s h).1

/-- **every history** (Set / SetIfAbsent / Invalidate / GetIfPresent / Compute / clock advances / automatic removals /
    InvalidateAll): as long as the spec accepts the automatic removals, Impl.Table and the spec return the same results and
    report the same atomic deletion events at every step, end with the same map, and values are conserved -/
theorem yhistory_sim (c : Cfg) (hk1 : KindOk c.expiry) (hk2 : KindOk c.refresh) (hr : ReadOk c) (ops : List YOp) :
    ∀ (is : IState) (ss : Spec.State), ss.m = absT is.t → ss.now = is.now → AllOk is.t → NodupKeys is.t → YClockOk is.now ops →
      ∀ q, ysrun c ss ops = some q →
        (yirun c is ops).2 = q.2 ∧ q.1.m = absT (yirun c is ops).1.t ∧
        (yirun c is ops).1.t.length + totalEvents (yirun c is ops).2 = is.t.length + yTotalInstalls ops (yirun c is ops).2 := by
  intro is ss hm hnow hok hnd hclk q hq
  have := RunSim.run_sim (isRun_yirun c) (isRun_ysrun c)
    (fun ops is ss => ss.m = absT is.t ∧ ss.now = is.now ∧ AllOk is.t ∧ NodupKeys is.t ∧ YClockOk is.now ops)
    (fun op rest is ss r ⟨hm, hnow, hok, hnd, hclk⟩ hacc => by
      have ⟨hn, hclk'⟩ := yclockOk_cons c is op rest hclk
      have hs := ystep_sim c is ss op hm hnow hok hnd hn hk1 hk2 hr r hacc
      exact ⟨hs.2.2.1, hs.1, hs.2.1, hs.2.2.2, (yistep_conserves c is op hnd).2, hclk'⟩)
    ops is ss ⟨hm, hnow, hok, hnd, hclk⟩ q hq
  exact ⟨this.1, this.2.1, yhistory_conserves c ops is hnd⟩

end OtterVerif.Proofs.TableAll
