/-
  Proofs.PolicyEvicted — the eviction pass seen from the table: every eviction of a pass is justified against the weight of
  the nodes mapped at that moment (`JustT`), and the callback list holds only dead nodes after an insertion.
-/
import OtterVerif.Proofs.PolicyWeight
import OtterVerif.Proofs.PolicyKills

namespace OtterVerif.Impl.Policy

/-- `JustT p live q live'`: q is reached from p by size evictions, each performed in a state whose maximum is exceeded by the
    total weight of the nodes MAPPED at that moment (`live` shrinks in lock-step: the callback unlinks the evicted node) -/
inductive JustT : Policy → List Nat → Policy → List Nat → Prop
  | done (p : Policy) (live : List Nat) : JustT p live p live
  | evict (p q : Policy) (live live' : List Nat) (x : Nat) : BitVec.ult p.maximum (wsum p live) = true →
      JustT (evictNode p x) (live.filter (· != x)) q live' → JustT p live q live'
  | draw (p q : Policy) (live live' : List Nat) (a b : Nat) : JustT (admit p a b).1 live q live' → JustT p live q live'

/-- **every eviction of a pass is justified at the table**: along the chain `Just` (Proofs.PolicyLoop) the policy's running
    total is, at every eviction, the total weight of the nodes mapped at that moment -/
theorem justT_of_just {S : List Nat} {p q : Policy} (h : Just p q) :
    ∀ (live : List Nat), LInv S p → WInv p → (all p).Perm live → ∃ live', JustT p live q live' ∧ (all q).Perm live' := by
  induction h with
  | done p => intro live _ _ hp; exact ⟨live, JustT.done p live, hp⟩
  | evict p q x hg _ ih =>
    intro live hi hw hp
    have hp' : (all (evictNode p x)).Perm (live.filter (· != x)) := by rw [(kill_evictNode p x hi.c).1]; exact hp.filter _
    obtain ⟨live', hj, hq⟩ := ih (live.filter (· != x)) (hi.evictNode x) (hw.evictNode x hi.c) hp'
    have hws : p.weightedSize = wsum p live := Eq.trans hw (wsum_perm p hp)
    exact ⟨live', JustT.evict p q live live' x (hws ▸ hg) hj, hq⟩
  | draw p q a b _ ih =>
    intro live hi hw hp
    have hp' : (all (admit p a b).1).Perm live := by rw [(cnt_admit p a b).all]; exact hp
    obtain ⟨live', hj, hq⟩ := ih live (hi.admit a b) (hw.admit a b) hp'
    exact ⟨live', JustT.draw p q live live' a b hj, hq⟩

theorem evictNodes_justified_at_table {S : List Nat} {p : Policy} (hi : LInv S p) (hw : WInv p) (live : List Nat)
    (hp : (all p).Perm live) :
    ∃ live', JustT (evictFromWindow p).1 live (evictNodes p) live' ∧ (all (evictNodes p)).Perm live' := by
  have hm := mv_evictFromWindow p
  exact justT_of_just (just_evictNodes p) live (hi.mv hm) (hw.mv hm hi.c) ((hm.perm hi.c).trans hp)

/-- **the callback list holds only dead nodes, after every sequential history**: with `Ek` (an alive node leaves the mapped set
    only through the callback) this pins `react` down from both sides for the add event and the eviction pass -/
theorem callback_nodes_dead_after_insert {S : List Nat} {p : Policy} (h : Reach S p) (id key w : Nat) (hs : id ∉ S)
    (hall : ∀ x, x ∈ p.evicted → (p.node x).st = .dead ∧ x ≠ id) :
    ∀ x, x ∈ (evictNodes (add (mkNode p id key w .alive) id)).evicted →
      ((evictNodes (add (mkNode p id key w .alive) id)).node x).st = .dead := by
  have hk : Kills (fun _ => False) (mkNode p id key w .alive) (evictNodes (add (mkNode p id key w .alive) id)) :=
    (kills_add _ id).trans (kills_evictNodes _)
  intro x hx
  -- already on the list before the step: it was dead, and nodes only die
  refine (hk.dead x hx).elim (fun a => hk.dn.dead ?_) (fun d => d)
  have hd0 := hall x a
  rw [mkNode_other _ _ _ _ _ _ hd0.2]; exact hd0.1

end OtterVerif.Impl.Policy
