/-
  Proofs.CacheJoint — the agreement "alive ⇔ mapped" as an invariant of the joint steps of table and size policy in
  single-goroutine use with a same-goroutine executor (every write event is replayed, and the eviction pass run, before the
  operation returns).  The table is represented by the list `live` of the node identities it maps.  `JInv` gives the
  hypotheses `Reach`, `Quiescent` and the clauses `nodup` and `alive` of `Agree` under which Proofs.CacheAgree and
  Props/C04Table state C04 / C07 on the table; `Agree`'s third clause, `weights`, is outside this model, which knows the
  table's entries by their identities only.  What makes it go through is `Kills` (Proofs.PolicyKills): the policy changes a
  node's state only by killing it, and reports each death to the callback unless it is that of the node the table has just
  retired.  A step is the table's own change (`Mid`), the policy's reply to it (`Reply`: one lemma per kind of operation), the
  eviction pass (`Reply.pass`) and the table's reaction (`Reply.jinv`); `JCase` says so of `jstep`.
-/
import OtterVerif.Proofs.CacheAgree
import OtterVerif.Proofs.PolicyKills

namespace OtterVerif.Proofs.CacheJoint
open OtterVerif OtterVerif.Impl.Policy OtterVerif.Proofs.CacheAgree

/-- the joint invariant: reachable, quiescent, and mapped ⇔ introduced ∧ alive -/
structure JInv (S : List Nat) (p : Policy) (live : List Nat) : Prop where
  reach : Reach S p
  quiet : Quiescent S p
  nodup : live.Nodup
  alive : ∀ id, id ∈ live ↔ (id ∈ S ∧ (p.node id).st = .alive)

/-- the table's reaction to the eviction callback: whatever the policy killed is unlinked -/
def react (p : Policy) (l : List Nat) : List Nat := l.filter (fun id => (p.node id).st == .alive)

theorem mem_react (p : Policy) (l : List Nat) (x : Nat) : x ∈ react p l ↔ x ∈ l ∧ (p.node x).st = .alive := by
  unfold react; rw [List.mem_filter]; simp

theorem react_eq_self {p : Policy} {l : List Nat} (h : ∀ x ∈ l, (p.node x).st = .alive) : react p l = l :=
  List.filter_eq_self.mpr fun x hx => by rw [h x hx]; rfl

theorem JInv.init (p0 : Policy) (h0 : p0.window = [] ∧ p0.probation = [] ∧ p0.prot = [] ∧ p0.weightedSize = 0) :
    JInv [] p0 [] :=
  ⟨Reach.init p0 h0.1 h0.2.1 h0.2.2.1 h0.2.2.2, (fun _ hx => by cases hx), List.nodup_nil,
   (fun id => ⟨(fun hx => by cases hx), (fun hx => by cases hx.1)⟩)⟩

theorem JInv.perm {S : List Nat} {p : Policy} {live : List Nat} (h : JInv S p live) : (all p).Perm live :=
  all_perm h.reach h.quiet h.nodup h.alive

theorem JInv.of_perm {S : List Nat} {p : Policy} {l l' : List Nat} (h : JInv S p l) (hp : l.Perm l') : JInv S p l' :=
  ⟨h.reach, h.quiet, hp.nodup_iff.mp h.nodup, fun id => by rw [← hp.mem_iff]; exact h.alive id⟩

/-- between the table's own change and the policy's reply to it: mapped ⇔ introduced ∧ alive still holds; `P` = the node the
    table has just retired, its event not yet replayed: it is not alive, and it is the only introduced node that may be neither
    alive nor dead -/
structure Mid (P : Nat → Prop) (S : List Nat) (p : Policy) (live : List Nat) : Prop where
  nodup : live.Nodup
  alive : ∀ id, id ∈ live ↔ (id ∈ S ∧ (p.node id).st = .alive)
  quiet : ∀ id, id ∈ S → (p.node id).st ≠ .alive → (p.node id).st = .dead ∨ P id
  retired : ∀ id, P id → (p.node id).st ≠ .alive

section
variable {P : Nat → Prop} {S : List Nat} {p : Policy} {live : List Nat}

theorem JInv.mid (h : JInv S p live) : Mid (fun _ => False) S p live :=
  ⟨h.nodup, h.alive, fun id hs hna => Or.inl (h.quiet id hs hna), fun _ => False.elim⟩

/-- the table removes or replaces the entry of `old`: unlinked, node retired -/
theorem JInv.retire (h : JInv S p live) (old : Nat) : Mid (· = old) S (retire p old) (live.filter (· != old)) := by
  refine ⟨h.nodup.sublist List.filter_sublist, fun x => ?_, fun x hs hna => ?_, fun x (e : x = old) => ?_⟩
  · by_cases e : x = old
    · rw [e]; simp [retire_not_alive]
    · rw [List.mem_filter, retire_other p old x e, h.alive x]; simp [e]
  · by_cases e : x = old
    · exact Or.inr e
    · rw [retire_other p old x e] at hna ⊢; exact Or.inl (h.quiet x hs hna)
  · rw [e]; exact retire_not_alive p old

theorem Mid.mkNode (h : Mid P S p live) {id : Nat} (key w : Nat) (hs : id ∉ S) (hP : ¬ P id) :
    Mid P (id :: S) (mkNode p id key w .alive) (id :: live) := by
  have hnl : id ∉ live := fun hm => hs ((h.alive id).mp hm).1
  refine ⟨List.nodup_cons.mpr ⟨hnl, h.nodup⟩, fun x => ?_, fun x hx hna => ?_, fun x px => ?_⟩
  · by_cases e : x = id
    · rw [e]; simp [mkNode_self]
    · rw [mkNode_other _ _ _ _ _ _ e, List.mem_cons, List.mem_cons, h.alive x]; simp [e]
  · by_cases e : x = id
    · rw [e, mkNode_self] at hna; exact absurd rfl hna
    · rw [mkNode_other _ _ _ _ _ _ e] at hna ⊢
      exact h.quiet x ((List.mem_cons.mp hx).resolve_left e) hna
  · rw [mkNode_other _ _ _ _ _ _ (fun e : x = id => hP (e ▸ px))]; exact h.retired x px

end

/-- a joint step up to the table's reaction: `p` and `live` are what the table's own change left (`Mid`), `q` is the policy's
    reply to it (the event replayed; after `Reply.pass`, the eviction pass too): it only kills — silently at most the retired
    node — and leaves the retired node dead -/
structure Reply (P : Nat → Prop) (S : List Nat) (p : Policy) (live : List Nat) (q : Policy) : Prop where
  mid : Mid P S p live
  reach : Reach S q
  kills : Kills P p q
  dead : ∀ x, P x → (q.node x).st = .dead

section
variable {P : Nat → Prop} {S : List Nat} {p q : Policy} {live : List Nat}

theorem Reply.pass (r : Reply P S p live q) : Reply P S p live (evictNodes q) :=
  ⟨r.mid, Reach.evict r.reach, r.kills.trans (kills_evictNodes q),
   fun x px => (kills_evictNodes (Q := P) q).dn.dead (r.dead x px)⟩

/-- the table unlinks what the policy killed: the invariant is back -/
theorem Reply.jinv (r : Reply P S p live q) : JInv S q (react q live) := by
  refine ⟨r.reach, fun x hx hna => ?_, r.mid.nodup.sublist List.filter_sublist, fun x => ?_⟩
  · rcases r.kills.dn x with e | d
    · rw [e] at hna ⊢
      exact (r.mid.quiet x hx hna).elim (fun d => d) (fun px => e ▸ r.dead x px)
    · exact d
  · rw [mem_react, r.mid.alive x]
    exact ⟨fun ⟨hx, ha⟩ => ⟨hx.1, ha⟩, fun ⟨hx, ha⟩ => ⟨⟨hx, r.kills.dn.alive ha⟩, ha⟩⟩

/-- what `react` unlinks was handed to the eviction callback: an alive node stops being alive only through it (`Ek`) -/
theorem Reply.drops_evicted (r : Reply P S p live q) (x : Nat) (hx : x ∈ live) (hd : x ∉ react q live) : x ∈ q.evicted := by
  have ha : (p.node x).st = .alive := ((r.mid.alive x).mp hx).2
  rcases (r.kills.ek r.mid.retired).2 x ha with ha' | he
  · exact absurd ((mem_react q live x).mpr ⟨hx, ha'⟩) hd
  · exact he

/-- no node is retired: `P` is empty -/
theorem reply_insert (h : JInv S p live) (id key w : Nat) (hs : id ∉ S) :
    Reply (fun _ => False) (id :: S) (mkNode p id key w .alive) (id :: live) (add (mkNode p id key w .alive) id) :=
  ⟨h.mid.mkNode key w hs not_false, Reach.add id (Reach.mk id key w .alive h.reach hs) hs, kills_add _ id, fun _ => False.elim⟩

theorem reply_replace (h : JInv S p live) (id old key w : Nat) (hs : id ∉ S) (ho : old ∈ live) :
    Reply (· = old) (id :: S) (mkNode (retire p old) id key w .alive) (id :: live.filter (· != old))
      (update (mkNode (retire p old) id key w .alive) id old) :=
  have hne : id ≠ old := fun e => hs (e ▸ ((h.alive old).mp ho).1)
  ⟨(h.retire old).mkNode key w hs hne, Reach.update id old (Reach.mk id key w .alive (Reach.retire old h.reach) hs) hs,
   kills_update _ id old rfl, fun x hx => by rw [hx]; exact node_update_old _ id old⟩

/-- a removal (delete event replayed) and an expiry (`delete` called from the timer wheel's callback) alike -/
theorem reply_remove (h : JInv S p live) (old : Nat) :
    Reply (· = old) S (retire p old) (live.filter (· != old)) (delete (retire p old) old) :=
  ⟨h.retire old, Reach.delete old (Reach.retire old h.reach), kills_makeDead _ old rfl,
   fun x hx => by rw [hx]; exact makeDead_dead _ old⟩

/-- the table creates and removes nothing, the policy alone moves (to any reachable `q`, killing no node or only through the
    callback) -/
theorem JInv.reply (h : JInv S p live) (hr : Reach S q) (hk : Kills (fun _ => False) p q) : Reply (fun _ => False) S p live q :=
  ⟨h.mid, hr, hk, fun _ => False.elim⟩

end

/-- **a new key**: node created alive, add event replayed, eviction pass, reaction -/
theorem jinsert {S : List Nat} {p : Policy} {live : List Nat} (h : JInv S p live) (id key w : Nat) (hs : id ∉ S) :
    JInv (id :: S) (evictNodes (add (mkNode p id key w .alive) id))
      (react (evictNodes (add (mkNode p id key w .alive) id)) (id :: live)) :=
  (reply_insert h id key w hs).pass.jinv

/-- **a replaced value**: old node retired, new node created alive, update event replayed, eviction pass, reaction -/
theorem jreplace {S : List Nat} {p : Policy} {live : List Nat} (h : JInv S p live) (id old key w : Nat) (hs : id ∉ S)
    (ho : old ∈ live) :
    JInv (id :: S) (evictNodes (update (mkNode (retire p old) id key w .alive) id old))
      (react (evictNodes (update (mkNode (retire p old) id key w .alive) id old)) (id :: live.filter (· != old))) :=
  (reply_replace h id old key w hs ho).pass.jinv

/-- `jexpire` holds whether or not `old` is mapped; a fold over a list of expired nodes (Proofs.CacheAll.jexpire_list) uses it
    in this form -/
theorem jexpire_any {S : List Nat} {p : Policy} {live : List Nat} (h : JInv S p live) (old : Nat) :
    JInv S (delete (retire p old) old) (live.filter (· != old)) := by
  have r := reply_remove h old
  -- nothing but `old` dies, and `old` is not in the list: the reaction has nothing to unlink
  have hal : ∀ x ∈ live.filter (· != old), ((delete (retire p old) old).node x).st = .alive := fun x hx => by
    have hne : x ≠ old := by simpa using (List.mem_filter.mp hx).2
    show ((makeDead (retire p old) old).node x).st = .alive
    rw [node_makeDead_other _ old x hne]; exact ((r.mid.alive x).mp hx).2
  rw [← react_eq_self hal]
  exact r.jinv

/-- **an expired value** (the timer wheel hands the node to cache.evictNode): the table unlinks and retires it, the size policy's
    `delete` is called directly — no write event, no eviction pass -/
theorem jexpire {S : List Nat} {p : Policy} {live : List Nat} (h : JInv S p live) (old : Nat) (ho : old ∈ live) :
    JInv S (delete (retire p old) old) (live.filter (· != old)) :=
  jexpire_any h old

/-- **a read, a hill-climber run, SetMaximum**: the policy alone moves, then the eviction pass and reaction -/
theorem jpolicy_only {S : List Nat} {p p' : Policy} {live : List Nat} (h : JInv S p live) (hr : Reach S p')
    (hk : Kills (fun _ => False) p p') : JInv S (evictNodes p') (react (evictNodes p') live) :=
  (h.reply hr hk).pass.jinv

/-- **a removed value** (Invalidate, a Compute that deletes): node retired, delete event replayed, eviction pass, reaction -/
theorem jdelete {S : List Nat} {p : Policy} {live : List Nat} (h : JInv S p live) (old : Nat) (ho : old ∈ live) :
    JInv S (evictNodes (delete (retire p old) old)) (react (evictNodes (delete (retire p old) old)) (live.filter (· != old))) :=
  (reply_remove h old).pass.jinv

/-! ### every sequential history -/

inductive JOp where
  | insert (id key w : Nat) | replace (id old key w : Nat) | remove (old : Nat) | expire (old : Nat)
  | read (id : Nat) | climb | setMax (m : BitVec 64)

structure JState where
  S : List Nat
  p : Policy
  live : List Nat

/-- one operation of the cache as the table and the policy see it; an operation whose precondition fails (an identity used
    twice, a node that is not mapped) is not a step of the cache and leaves the state alone -/
def jstep (s : JState) : JOp → JState
  | .insert id key w =>
    if id ∈ s.S then s else
    let p' := evictNodes (add (mkNode s.p id key w .alive) id)
    { S := id :: s.S, p := p', live := react p' (id :: s.live) }
  | .replace id old key w =>
    if id ∈ s.S ∨ old ∉ s.live then s else
    let p' := evictNodes (update (mkNode (retire s.p old) id key w .alive) id old)
    { S := id :: s.S, p := p', live := react p' (id :: s.live.filter (· != old)) }
  | .remove old =>
    if old ∉ s.live then s else
    let p' := evictNodes (delete (retire s.p old) old)
    { s with p := p', live := react p' (s.live.filter (· != old)) }
  | .expire old =>
    if old ∉ s.live then s else { s with p := delete (retire s.p old) old, live := s.live.filter (· != old) }
  | .read id => let p' := evictNodes (access s.p id); { s with p := p', live := react p' s.live }
  | .climb => let p' := evictNodes (Impl.Policy.climb s.p); { s with p := p', live := react p' s.live }
  | .setMax m => let p' := evictNodes (setMaximumSize s.p m); { s with p := p', live := react p' s.live }

/-- what one step comes to: no step of the cache (its precondition failed: the state is unchanged); the removal of an expired
    node (the one operation that runs no eviction pass); or the table's change, the policy's reply `q` to it, the eviction pass
    and the table's reaction — which is what the invariant and the size bound after every operation (Props/C04Joint) rest on -/
inductive JCase (s : JState) : JOp → JState → Prop
  | skip {op : JOp} : JCase s op s
  | expire (old : Nat) : JCase s (.expire old) { s with p := delete (retire s.p old) old, live := s.live.filter (· != old) }
  | reply {op : JOp} {P : Nat → Prop} {S : List Nat} {p q : Policy} {l : List Nat} : Reply P S p l q →
      JCase s op { S := S, p := evictNodes q, live := react (evictNodes q) l }

/-- an operation whose precondition fails is no step of the cache -/
theorem JCase.guard {s t : JState} {op : JOp} {c : Prop} [Decidable c] (h : ¬ c → JCase s op t) :
    JCase s op (if c then s else t) := by
  split
  · exact .skip
  · exact h ‹_›

theorem jstep_case (s : JState) (op : JOp) (h : JInv s.S s.p s.live) : JCase s op (jstep s op) := by
  cases op with
  | insert id key w => exact .guard fun hs => .reply (reply_insert h id key w hs)
  | replace id old key w =>
    exact .guard fun hc => .reply (reply_replace h id old key w (not_or.mp hc).1 (Decidable.not_not.mp (not_or.mp hc).2))
  | remove old => exact .guard fun _ => .reply (reply_remove h old)
  | expire old => exact .guard fun _ => .expire old
  | read id => exact .reply (h.reply (Reach.access id h.reach) (mv_access _ id).toFr.kills)
  | climb => exact .reply (h.reply (Reach.climb h.reach) (mv_climb _).toFr.kills)
  | setMax m =>
    obtain ⟨hnodes, -, -, -, -, hevicted⟩ := setMaximumSize_fields s.p m
    exact .reply (h.reply (Reach.setmax m h.reach) (.of_fields hnodes hevicted))

theorem jstep_inv (s : JState) (op : JOp) (h : JInv s.S s.p s.live) : JInv (jstep s op).S (jstep s op).p (jstep s op).live := by
  have hc := jstep_case s op h
  generalize jstep s op = t at hc ⊢
  cases hc with
  | skip => exact h
  | expire old =>
    -- the projections reduced first: `exact` alone tries `s =?= { s with … }` (structure eta) and unfolds `delete`
    dsimp only
    exact jexpire_any h old
  | reply r => exact r.pass.jinv

/-- **the agreement is an invariant of every sequential history** from an empty cache -/
theorem jrun_inv (p0 : Policy) (h0 : p0.window = [] ∧ p0.probation = [] ∧ p0.prot = [] ∧ p0.weightedSize = 0)
    (ops : List JOp) : let s := ops.foldl jstep { S := [], p := p0, live := [] }; JInv s.S s.p s.live :=
  List.foldlRecOn (motive := fun s => JInv s.S s.p s.live) ops jstep (JInv.init p0 h0) (fun s h op _ => jstep_inv s op h)

/-- consequence: after every sequential history WeightedSize is the sum of the weights of exactly the mapped nodes -/
theorem jrun_weight (p0 : Policy) (h0 : p0.window = [] ∧ p0.probation = [] ∧ p0.prot = [] ∧ p0.weightedSize = 0)
    (ops : List JOp) : let s := ops.foldl jstep { S := [], p := p0, live := [] }; s.p.weightedSize = wsum s.p s.live := by
  intro s
  have h := jrun_inv p0 h0 ops
  exact (reach_winv h.reach).trans (wsum_perm s.p h.perm)

end OtterVerif.Proofs.CacheJoint
