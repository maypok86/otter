/-
  Proofs.TableTraceFull — histories with loads and explicit deadlines.
  TableTrace relates tables and spec maps by list equality, which the spec's `setExpiresAfter`, `setRefreshableAfter` and
  `applyReloadFailure` do not preserve (they re-insert an entry even when nothing changes, the code does not touch the table).
  Here the relation is "same map" (`MapEq`), and the history covers, besides the operations of TableTrace: the registration of
  a load (startCall), its completion with any outcome (finishCall: ok / error / not found, plain load or refresh, ordinary or
  volunteered key), SetExpiresAfter and SetRefreshableAfter.  The in-flight table of the single-flight group is part of both
  states and updated by the same rules.
-/
import OtterVerif.Proofs.TableTrace

namespace OtterVerif.Proofs.TableTraceFull
open OtterVerif OtterVerif.Impl.Table OtterVerif.Proofs.TableRefine OtterVerif.Proofs.TableTrace
open OtterVerif.Spec (Cause Event Out Entry Cfg Kind)

/-- two spec states that denote the same cache (statistics aside) -/
structure SEq (s1 s2 : Spec.State) : Prop where
  m : MapEq s1.m s2.m
  now : s1.now = s2.now
  inflight : s1.inflight = s2.inflight

inductive FOp where
  | base (op : Op)
  | start (k cid : Nat)
  | finish (k cid : Nat) (isRefresh fake : Bool) (o : Spec.LoadOutcome)
  | setExp (k : Nat) (d : Int)
  | setRef (k : Nat) (d : Int)

structure FState where
  now : Int
  t : Tbl
  inflight : List (Nat × Nat)     -- the single-flight group: key ↦ registered call

def clearI (fl : List (Nat × Nat)) (k : Nat) : List (Nat × Nat) := fl.filter (fun p => p.1 != k)
def regOf (fl : List (Nat × Nat)) (k : Nat) : Option Nat := (fl.find? (fun p => p.1 == k)).map (·.2)

def toLoadOut : Spec.LoadOutcome → LoadOut
  | .ok v => .ok v | .err _ => .err | .notFound _ => .notFound | .panic => .err

/-- which operations unregister the key's call: as the code does it (singleflight.delete inside atomicSet / atomicDelete when
    no call is in hand) -/
def baseInflight (s : FState) : Op → List (Nat × Nat)
  | .set k _ => clearI s.inflight k
  | .setIfAbsent k _ => if lookupIsHit s.t k s.now then s.inflight else clearI s.inflight k
  | .invalidate k => clearI s.inflight k
  | .get _ => s.inflight
  | .compute k (.write _) => clearI s.inflight k
  | .compute k .invalidate => clearI s.inflight k
  | .compute k .cancel =>
    (match lookup s.t k with
     | some o => if hasExpired o s.now then clearI s.inflight k else s.inflight
     | none => s.inflight)
  | .compute _ _ => s.inflight
  | .advance _ => s.inflight

def fstep (c : Cfg) (s : FState) : FOp → FState × Out × List Event
  | .base op =>
    let r := istep c { now := s.now, t := s.t } op
    ({ now := r.1.now, t := r.1.t, inflight := baseInflight s op }, r.2)
  | .start k cid =>
    ((match regOf s.inflight k with
      | some _ => s
      | none => { s with inflight := (k, cid) :: s.inflight }), .unit, [])
  | .finish k cid isRefresh fake o =>
    let correct := fake || regOf s.inflight k == some cid
    let r := finishCall (cfgOf c) s.t k correct isRefresh (toLoadOut o) s.now
    ({ now := s.now, t := r.1, inflight := if regOf s.inflight k == some cid then clearI s.inflight k else s.inflight }, .unit, r.2)
  | .setExp k d => ({ s with t := setExpiresAfter (cfgOf c) s.t k d s.now }, .unit, [])
  | .setRef k d => ({ s with t := setRefreshableAfter (cfgOf c) s.t k d s.now }, .unit, [])

def fsstep (c : Cfg) (s : Spec.State) : FOp → Spec.State × Out × List Event
  | .base op => sstep c s op
  | .start k cid => ((Spec.startCall s k cid).1, .unit, [])
  | .finish k cid isRefresh fake o => let r := Spec.finishCall c s k cid isRefresh fake o; (r.1, .unit, r.2)
  | .setExp k d => (Spec.setExpiresAfter c s k d, .unit, [])
  | .setRef k d => (Spec.setRefreshableAfter c s k d, .unit, [])

structure FR (is : FState) (ss : Spec.State) : Prop where
  m : MapEq (absT is.t) ss.m
  now : ss.now = is.now
  inflight : ss.inflight = is.inflight
  ok : AllOk is.t

theorem MapEq.symm' {a b : List (Nat × Entry)} (h : MapEq a b) : MapEq b a := fun j => (h j).symm

theorem base_inflight_sim (c : Cfg) (is : FState) (s : Spec.State) (op : Op) (hm : MapEq (absT is.t) s.m)
    (hnow : s.now = is.now) (hfl : s.inflight = is.inflight) : (sstep c s op).1.inflight = baseInflight is op := by
  obtain ⟨now, t, fl⟩ := is
  obtain rfl : s.now = now := hnow
  obtain rfl : s.inflight = fl := hfl
  cases op with
  | setIfAbsent k v =>
    show (Spec.setIfAbsent c s k v).1.inflight = (if lookupIsHit t k s.now then s.inflight else clearI s.inflight k)
    rw [lookupIsHit_live hm k]
    unfold Spec.setIfAbsent
    cases s.live k <;> rfl
  | get k =>
    show (Spec.getIfPresent c s k).1.inflight = s.inflight
    cases hl : s.live k with
    | none => rw [Spec.getIfPresent_none hl]; rfl
    | some e => rw [Spec.getIfPresent_some hl]; rfl
  | compute k act =>
    cases act with
    | cancel =>
      cases Slot.of_mapEq hm k with
      | absent hl hp hv => simp only [sstep, Spec.computeStep, baseInflight, hl, hv, hp]
      | expired o hl hx hp hv => simp only [sstep, Spec.computeStep, baseInflight, hl, hx, hv, hp, ↓reduceIte]; exact Spec.remove_inflight _ _ _
      | visible o hl hx hp hv => simp only [sstep, Spec.computeStep, baseInflight, hl, hx, hv, Bool.false_eq_true, ↓reduceIte]
    | invalidate => exact Spec.remove_inflight _ _ _
    | _ => rfl
  | invalidate k => exact Spec.remove_inflight _ _ _
  | _ => rfl

theorem base_inflight (c : Cfg) (is : FState) (s : Spec.State) (op : Op) (hm : s.m = absT is.t) (hnow : s.now = is.now)
    (hfl : s.inflight = is.inflight) : (sstep c s op).1.inflight = baseInflight is op :=
  base_inflight_sim c is s op (MapEq.of_eq hm.symm) hnow hfl

theorem finishCall_eff (cfg : TCfg) (t : Tbl) (k : Nat) (correct isRefresh : Bool) (o : LoadOut) (now : Int) :
    ∃ n, Eff cfg now t (finishCall cfg t k correct isRefresh o now).1 (finishCall cfg t k correct isRefresh o now).2 n := by
  cases o with
  | ok v => unfold finishCall; cases correct <;> first | exact ⟨_, .same⟩ | exact ⟨_, .install k v _⟩
  | notFound =>
    unfold finishCall
    cases hl : lookup t k <;> cases correct <;> first | exact ⟨_, .same⟩ | exact ⟨_, .delete hl _⟩
  | err =>
    obtain ⟨hev, ht | ⟨x, d, hl, _, hd, ht⟩⟩ := finishCall_err cfg t k correct isRefresh now
    · rw [hev, ht]; exact ⟨_, .same⟩
    · rw [hev, ht]; exact ⟨_, .setRef hl d hd⟩

theorem setExpiresAfter_eff (cfg : TCfg) (t : Tbl) (k : Nat) (d now : Int) : Eff cfg now t (setExpiresAfter cfg t k d now) [] 0 := by
  unfold setExpiresAfter
  cases hl : lookup t k with
  | none => split <;> exact .same
  | some n => simp only; repeat' split
              all_goals first | exact .same | exact .setExp hl d

theorem setRefreshableAfter_eff (cfg : TCfg) (t : Tbl) (k : Nat) (d now : Int) :
    Eff cfg now t (setRefreshableAfter cfg t k d now) [] 0 := by
  unfold setRefreshableAfter
  cases hl : lookup t k with
  | none => split <;> exact .same
  | some n =>
    simp only
    repeat' split
    all_goals first
      | exact .same
      | (rename_i hg; simp only [Bool.and_eq_true, decide_eq_true_eq] at hg; exact .setRef hl d hg.1)

theorem fstep_sim (c : Cfg) (is : FState) (ss : Spec.State) (op : FOp) (R : FR is ss) (hn : InRange is.now)
    (hk1 : KindOk c.expiry) (hk2 : KindOk c.refresh) (hr : ReadOk c) :
    FR (fstep c is op).1 (fsstep c ss op).1 ∧ (fstep c is op).2 = (fsstep c ss op).2 := by
  obtain ⟨now, t, fl⟩ := is
  obtain ⟨hm, hnow, hfl, hok⟩ := R
  obtain rfl : ss.now = now := hnow
  obtain rfl : ss.inflight = fl := hfl
  cases op with
  | base op =>
    have hsim := step_sim MapRel.mapEq c ⟨ss.now, t⟩ ss op hm rfl hok hn hk1 hk2 hr
    exact ⟨⟨hsim.1, hsim.2.1, base_inflight_sim c ⟨ss.now, t, ss.inflight⟩ ss op hm rfl rfl, istep_allOk c ⟨ss.now, t⟩ op hok hn⟩,
      hsim.2.2⟩
  | start k cid =>
    show FR (match regOf ss.inflight k with | some _ => _ | none => _) (Spec.startCall ss k cid).1 ∧ _
    unfold Spec.startCall
    rw [show ss.inflightOf k = regOf ss.inflight k from rfl]
    cases regOf ss.inflight k <;> exact ⟨⟨hm, rfl, rfl, hok⟩, rfl⟩
  | finish k cid isRefresh fake o =>
    have hfr : (Spec.finishCall c ss k cid isRefresh fake o).1.now = ss.now ∧
        (Spec.finishCall c ss k cid isRefresh fake o).1.inflight
          = (if ss.inflightOf k == some cid then clearI ss.inflight k else ss.inflight) := by
      rw [Spec.finishCall_frame]; dsimp only; split <;> exact ⟨rfl, rfl⟩
    obtain ⟨n, he⟩ := finishCall_eff (cfgOf c) t k (fake || regOf ss.inflight k == some cid) isRefresh (toLoadOut o) ss.now
    have hmain := finishCall_sim c ss t k cid isRefresh fake o (toLoadOut o) (by cases o <;> rfl) hm hn (hok k) hk1 hk2
    exact ⟨⟨hmain.1, hfr.1, hfr.2, he.allOk hok hn⟩, congrArg (Prod.mk Out.unit) hmain.2⟩
  | setExp k d =>
    have hfr : (Spec.setExpiresAfter c ss k d).now = ss.now ∧ (Spec.setExpiresAfter c ss k d).inflight = ss.inflight := by
      rw [Spec.setExpiresAfter_frame]; exact ⟨rfl, rfl⟩
    exact ⟨⟨setExpiresAfter_sim c ss t k d hm hn (hok k), hfr.1, hfr.2, (setExpiresAfter_eff _ _ _ _ _).allOk hok hn⟩, rfl⟩
  | setRef k d =>
    have hfr : (Spec.setRefreshableAfter c ss k d).now = ss.now ∧ (Spec.setRefreshableAfter c ss k d).inflight = ss.inflight := by
      rw [Spec.setRefreshableAfter_frame]; exact ⟨rfl, rfl⟩
    exact ⟨⟨setRefreshableAfter_sim c ss t k d hm hn (hok k), hfr.1, hfr.2, (setRefreshableAfter_eff _ _ _ _ _).allOk hok hn⟩, rfl⟩

def firun (c : Cfg) : FState → List FOp → FState × List (Out × List Event)
  | s, [] => (s, [])
  | s, op :: rest => let r := fstep c s op; let q := firun c r.1 rest; (q.1, r.2 :: q.2)

def fsrun (c : Cfg) : Spec.State → List FOp → Spec.State × List (Out × List Event)
  | s, [] => (s, [])
  | s, op :: rest => let r := fsstep c s op; let q := fsrun c r.1 rest; (q.1, r.2 :: q.2)

theorem isRun_firun (c : Cfg) : RunSim.IsRun (fstep c) (firun c) := ⟨fun _ => rfl, fun _ _ _ => rfl⟩

theorem isRun_fsrun (c : Cfg) : RunSim.IsRunOpt (fun s op => some (fsstep c s op)) (fun s ops => some (fsrun c s ops)) :=
  ⟨fun _ => rfl, fun _ _ _ => rfl⟩

def FClockOk (now : Int) : List FOp → Prop
  | [] => InRange now
  | .base (.advance d) :: rest => InRange now ∧ FClockOk (now + d) rest
  | _ :: rest => InRange now ∧ FClockOk now rest

theorem fclockOk_cons (c : Cfg) (is : FState) (op : FOp) (rest : List FOp) (h : FClockOk is.now (op :: rest)) :
    InRange is.now ∧ FClockOk (fstep c is op).1.now rest := by
  cases op with
  | base o => cases o <;> exact h
  | start k cid =>
    show _ ∧ FClockOk (match regOf is.inflight k with | some _ => is | none => _ : FState).now rest
    cases regOf is.inflight k <;> exact h
  | _ => exact h

/-- **every history, loads and explicit deadlines included** -/
theorem full_history_sim (c : Cfg) (hk1 : KindOk c.expiry) (hk2 : KindOk c.refresh) (hr : ReadOk c) (ops : List FOp) :
    ∀ (is : FState) (ss : Spec.State), FR is ss → FClockOk is.now ops →
      (firun c is ops).2 = (fsrun c ss ops).2 ∧ FR (firun c is ops).1 (fsrun c ss ops).1 := by
  intro is ss R hclk
  have := RunSim.run_sim (isRun_firun c) (isRun_fsrun c) (fun ops is ss => FR is ss ∧ FClockOk is.now ops)
    (fun op rest is ss r ⟨R, hclk⟩ hr' => by
      obtain rfl := Option.some.inj hr'
      have ⟨hn, hclk'⟩ := fclockOk_cons c is op rest hclk
      have hs := fstep_sim c is ss op R hn hk1 hk2 hr
      exact ⟨hs.2, hs.1, hclk'⟩)
    ops is ss ⟨R, hclk⟩ _ rfl
  exact ⟨this.1, this.2.1⟩

end OtterVerif.Proofs.TableTraceFull
