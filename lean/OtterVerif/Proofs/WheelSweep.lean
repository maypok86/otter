/-
  Proofs.WheelSweep — the placement invariant of the timer wheel through the bucket loops of DeleteExpired:
  after a sweep at time T every timer event still scheduled is correctly placed relative to T; in particular none of them
  lies in a tick before T's (so an event that is overdue by a full tick has been handed to expireNode).

  What one bucket sweep leaves is said once (`sweepBucket_spec`), and so is that DeleteExpired is a sequence of bucket sweeps
  (`deleteExpired_bucketwise`).  The placement is followed through the sweep by one notion, `Sweeping t T D w`: every entry is
  placed correctly for the old time t, and for the new time T at the locations D that have been swept.  Each loop of
  DeleteExpired enlarges D.
-/
import OtterVerif.Impl.Wheel

namespace OtterVerif.Impl.Wheel

/-! ### lists -/

theorem getD_modifyAt {α : Type} (l : List α) (i j : Nat) (f : α → α) (d : α) :
    (modifyAt l i f).getD j d = if j = i ∧ j < l.length then f (l.getD j d) else l.getD j d := by
  unfold modifyAt
  grind

theorem length_modifyAt {α : Type} (l : List α) (i : Nat) (f : α → α) : (modifyAt l i f).length = l.length := by
  unfold modifyAt; simp

/-! ### shape -/

/-- five levels with 64, 64, 32, 4, 1 buckets -/
def Shape (w : Wheel) : Prop := w.wheel.length = 5 ∧ ∀ i, i < 5 → (w.wheel.getD i []).length = buckets i

theorem shape_setBucket (w : Wheel) (l s : Nat) (b : List Ent) (h : Shape w) : Shape (w.setBucket l s b) := by
  unfold Wheel.setBucket Shape at *
  refine ⟨by simp only [length_modifyAt]; exact h.1, fun i hi => ?_⟩
  simp only [getD_modifyAt]
  split
  · rw [length_modifyAt]; exact h.2 i hi
  · exact h.2 i hi

theorem bucket_setBucket (w : Wheel) (l s l' s' : Nat) (b : List Ent) (h : Shape w) (hl : l < 5) (hs : s < buckets l) :
    (w.setBucket l s b).bucket l' s' = if l' = l ∧ s' = s then b else w.bucket l' s' := by
  unfold Wheel.setBucket Wheel.bucket
  simp only [getD_modifyAt]
  by_cases e1 : l' = l
  · subst e1
    have hlen : l' < w.wheel.length := by rw [h.1]; exact hl
    simp only [hlen, and_self, ↓reduceIte, true_and]
    rw [getD_modifyAt]
    by_cases e2 : s' = s
    · subst e2
      have : s' < (w.wheel.getD l' []).length := by rw [h.2 l' hl]; exact hs
      rw [if_pos ⟨rfl, this⟩, if_pos rfl]
    · rw [if_neg (fun hh => e2 hh.1), if_neg e2]
  · simp [e1]

theorem time_setBucket (w : Wheel) (l s : Nat) (b : List Ent) : (w.setBucket l s b).time = w.time := rfl

/-! ### ticks: `x >>> k` is the number of the tick of size 2^k that x lies in -/

theorem shr_mono {a b k : Nat} (h : a ≤ b) : a >>> k ≤ b >>> k := by
  rw [Nat.shiftRight_eq_div_pow, Nat.shiftRight_eq_div_pow]; exact Nat.div_le_div_right h

theorem div_lt_of_add_le {S t d : Nat} (hS : 0 < S) (h : t + S ≤ d) : t / S < d / S := by
  have := Nat.div_le_div_right (c := S) h
  rwa [Nat.add_div_right _ hS] at this

theorem shr_lt_of_add_le {t d k : Nat} (h : t + 2 ^ k ≤ d) : t >>> k < d >>> k := by
  rw [Nat.shiftRight_eq_div_pow, Nat.shiftRight_eq_div_pow]; exact div_lt_of_add_le (Nat.pow_pos (by decide)) h

theorem lt_of_shr_lt {a b k : Nat} (h : a >>> k < b >>> k) : a < b := by
  rw [Nat.shiftRight_eq_div_pow, Nat.shiftRight_eq_div_pow] at h; exact Nat.lt_of_div_lt_div h

/-- a sweep of `b` buckets from tick `pt` to tick `ct` (`min (ct - pt + 1) b` steps from slot `pt % b`) visits the slot of
    every tick in between -/
theorem visited_of_between (b pt ct et : Nat) (hb : 0 < b) (h1 : pt ≤ et) (h2 : et ≤ ct) :
    ∃ k, k < min (ct - pt + 1) b ∧ et % b = (pt % b + k) % b := by
  by_cases hall : b ≤ ct - pt + 1
  · -- all b buckets are visited: take the offset of et's slot from the start slot
    have ha := Nat.mod_lt et hb
    have hb' := Nat.mod_lt pt hb
    refine ⟨(et % b + b - pt % b) % b, by have := Nat.mod_lt (et % b + b - pt % b) hb; omega, ?_⟩
    rw [Nat.add_mod_mod, show pt % b + (et % b + b - pt % b) = et % b + b by omega, Nat.add_mod_right, Nat.mod_mod]
  · refine ⟨et - pt, by omega, ?_⟩
    rw [Nat.mod_add_mod, show pt + (et - pt) = et by omega]

/-! ### the five levels; differences of 64-bit times -/

theorem shift_lt (l : Nat) : shift l ≤ 49 := by
  unfold shift shifts
  rcases l with _ | _ | _ | _ | _ | l <;> simp

theorem buckets_pos (l : Nat) : 0 < buckets l := by
  unfold buckets nBuckets
  rcases l with _ | _ | _ | _ | _ | l <;> simp

theorem span_eq : ∀ l < 5, span l = 2 ^ shift l := by decide

theorem shift_mono : ∀ l < 5, ∀ i ≤ l, shift i ≤ shift l := by decide

/-- the code's wrapping uint64 subtraction (findBucket's `duration`, DeleteExpired's `delta`) is the plain difference when
    the minuend is the larger -/
theorem delta_eq (a b : Nat) (hba : b ≤ a) (ha : a < two64) : (a + two64 - b) % two64 = a - b := by
  rw [show a + two64 - b = two64 + (a - b) by omega, Nat.add_mod_left]
  exact Nat.mod_eq_of_lt (by omega)

/-! ### correct placement -/

/-- entry x sits correctly in bucket (l, s) when the wheel's time is t -/
structure Good (t l s : Nat) (x : Ent) : Prop where
  lv : l < 5
  sl : s = (x.e >>> shift l) % buckets l
  /-- level 0 holds the current and later ticks, higher levels only later ticks -/
  tk : if l = 0 then t >>> shift 0 ≤ x.e >>> shift 0 else t >>> shift l < x.e >>> shift l
  de : x.d ≤ x.e
  bd : x.e < two64

/-- every scheduled entry is correctly placed for time t -/
def InvAt (t : Nat) (w : Wheel) : Prop := Shape w ∧ ∀ l s x, x ∈ w.bucket l s → Good t l s x

theorem Good.d_lt {t l s : Nat} {x : Ent} (h : Good t l s x) : x.d < two64 := Nat.lt_of_le_of_lt h.de h.bd

theorem Good.tick_le {t l s : Nat} {x : Ent} (h : Good t l s x) : t >>> shift l ≤ x.e >>> shift l := by
  have := h.tk
  split at this
  · rename_i e; subst e; exact this
  · exact Nat.le_of_lt this

/-- placement depends on the wheel's time only through its tick at the entry's level: an entry stays correctly placed
    when that tick does not advance, or stays behind the entry's -/
theorem Good.retime {t T l s : Nat} {x : Ent} (h : Good t l s x)
    (hT : T >>> shift l ≤ t >>> shift l ∨ T >>> shift l < x.e >>> shift l) : Good T l s x := by
  refine ⟨h.lv, h.sl, ?_, h.de, h.bd⟩
  have := h.tk
  split at this
  · rename_i e; subst e; rw [if_pos rfl]; omega
  · rename_i e; rw [if_neg e]; omega

theorem Good.earlier {t t' l s : Nat} {x : Ent} (h : Good t l s x) (ht : t' ≤ t) : Good t' l s x :=
  h.retime (Or.inl (shr_mono ht))

theorem good_not_overdue (T l s : Nat) (x : Ent) (h : Good T l s x) : T >>> shift 0 ≤ x.e >>> shift 0 := by
  have := h.tk
  split at this
  · exact this
  · exact shr_mono (Nat.le_of_lt (lt_of_shr_lt this))

/-! ### findBucket places every deadline correctly -/

/-- findBucket puts a deadline d, counted from `max d t` (an already due one goes to the current tick), in the slot of its
    tick at a level l that is 0 or whose tick size the distance reaches.  (Stated without projections of `findBucket t d`:
    reducing a projection of its `if` makes Lean evaluate the comparison with 2^36 in unary.) -/
theorem findBucket_spec (t d : Nat) : ∃ l, l < 5 ∧ findBucket t d = (l, (max d t >>> shift l) % buckets l) ∧
    (l = 0 ∨ span l ≤ (max d t + two64 - t) % two64) := by
  have he : (if d < t then t else d) = max d t := by
    by_cases h : d < t
    · rw [if_pos h, Nat.max_eq_right (Nat.le_of_lt h)]
    · rw [if_neg h, Nat.max_eq_left (Nat.le_of_not_lt h)]
  unfold findBucket
  simp only [he]
  generalize (max d t + two64 - t) % two64 = dur
  by_cases h1 : dur < span 1
  · exact ⟨0, by decide, if_pos h1, Or.inl rfl⟩
  by_cases h2 : dur < span 2
  · exact ⟨1, by decide, by rw [if_neg h1, if_pos h2], Or.inr (Nat.le_of_not_lt h1)⟩
  by_cases h3 : dur < span 3
  · exact ⟨2, by decide, by rw [if_neg h1, if_neg h2, if_pos h3], Or.inr (Nat.le_of_not_lt h2)⟩
  by_cases h4 : dur < span 4
  · exact ⟨3, by decide, by rw [if_neg h1, if_neg h2, if_neg h3, if_pos h4], Or.inr (Nat.le_of_not_lt h3)⟩
  · exact ⟨4, by decide, by rw [if_neg h1, if_neg h2, if_neg h3, if_neg h4, show buckets 4 = 1 from rfl, Nat.mod_one],
      Or.inr (Nat.le_of_not_lt h4)⟩

theorem findBucket_lt (t d : Nat) : (findBucket t d).1 < 5 ∧ (findBucket t d).2 < buckets (findBucket t d).1 := by
  obtain ⟨l, hl, e, _⟩ := findBucket_spec t d
  rw [e]
  exact ⟨hl, Nat.mod_lt _ (buckets_pos l)⟩

theorem good_place (t d n l : Nat) (hl : l < 5) (ht : t < two64) (hd : d < two64) (h : l = 0 ∨ span l ≤ max d t - t) :
    Good t l ((max d t >>> shift l) % buckets l) { id := n, d := d, e := max d t } := by
  refine ⟨hl, rfl, ?_, Nat.le_max_left d t, Nat.max_lt.mpr ⟨hd, ht⟩⟩
  show if l = 0 then t >>> shift 0 ≤ max d t >>> shift 0 else t >>> shift l < max d t >>> shift l
  split
  · exact shr_mono (Nat.le_max_right d t)
  · have hs := span_eq l hl
    exact shr_lt_of_add_le (by omega)

theorem findBucket_good (t d n : Nat) (ht : t < two64) (hd : d < two64) :
    Good t (findBucket t d).1 (findBucket t d).2 { id := n, d := d, e := max d t } := by
  obtain ⟨l, hl, e, h⟩ := findBucket_spec t d
  rw [delta_eq _ _ (Nat.le_max_right d t) (Nat.max_lt.mpr ⟨hd, ht⟩)] at h
  rw [e]
  exact good_place t d n l hl ht hd h

/-! ### Add -/

theorem add_time (w : Wheel) (n d : Nat) : (add w n d).time = w.time := rfl

theorem mem_bucket_add {w : Wheel} (hsh : Shape w) (n d l s : Nat) (x : Ent) :
    x ∈ (add w n d).bucket l s ↔ x ∈ w.bucket l s ∨
      (l = (findBucket w.time d).1 ∧ s = (findBucket w.time d).2 ∧ x = { id := n, d := d, e := max d w.time }) := by
  obtain ⟨hl, hs⟩ := findBucket_lt w.time d
  unfold add
  rw [bucket_setBucket w _ _ l s _ hsh hl hs]
  by_cases e : l = (findBucket w.time d).1 ∧ s = (findBucket w.time d).2
  · rw [if_pos e, List.mem_append, List.mem_singleton, e.1, e.2]
    simp only [true_and]
  · rw [if_neg e]
    exact ⟨Or.inl, fun h => h.elim id fun h' => absurd ⟨h'.1, h'.2.1⟩ e⟩

/-! ### one bucket of the sweep -/

/-- the entry x that `sweepEnt` schedules, in bucket (l, s), for a node y not yet due at time T -/
def Readded (T : Nat) (y : Ent) (l s : Nat) (x : Ent) : Prop :=
  ¬ y.d < T ∧ l = (findBucket T y.d).1 ∧ s = (findBucket T y.d).2 ∧ x = { id := y.id, d := y.d, e := max y.d T }

theorem sweepEnt_spec (acc : Wheel × List Nat) (y : Ent) (hsh : Shape acc.1) :
    (sweepEnt acc y).1.time = acc.1.time ∧ Shape (sweepEnt acc y).1 ∧
    (∀ l s x, x ∈ (sweepEnt acc y).1.bucket l s ↔ x ∈ acc.1.bucket l s ∨ Readded acc.1.time y l s x) ∧
    (∀ n, n ∈ (sweepEnt acc y).2 ↔ n ∈ acc.2 ∨ (y.d < acc.1.time ∧ y.id = n)) := by
  unfold sweepEnt Readded
  split
  · rename_i h
    exact ⟨rfl, hsh, fun l s x => ⟨Or.inl, fun hx => hx.elim id fun hr => absurd h hr.1⟩,
      fun n => by simp only [List.mem_append, List.mem_singleton, h, true_and, eq_comm]⟩
  · rename_i h
    exact ⟨rfl, shape_setBucket _ _ _ _ hsh, fun l s x => by simp only [mem_bucket_add hsh, h, not_false_eq_true, true_and],
      fun n => by simp only [h, false_and, or_false]⟩

theorem foldl_sweepEnt_spec (xs : List Ent) : ∀ (acc : Wheel × List Nat), Shape acc.1 →
    (xs.foldl sweepEnt acc).1.time = acc.1.time ∧ Shape (xs.foldl sweepEnt acc).1 ∧
    (∀ l s x, x ∈ (xs.foldl sweepEnt acc).1.bucket l s ↔ x ∈ acc.1.bucket l s ∨ ∃ y, y ∈ xs ∧ Readded acc.1.time y l s x) ∧
    (∀ n, n ∈ (xs.foldl sweepEnt acc).2 ↔ n ∈ acc.2 ∨ ∃ y, y ∈ xs ∧ y.d < acc.1.time ∧ y.id = n) := by
  induction xs with
  | nil => intro acc hsh; simp [hsh]
  | cons y xs ih =>
    intro acc hsh
    obtain ⟨ht, hsh', hb, hx⟩ := sweepEnt_spec acc y hsh
    obtain ⟨ht2, hsh2, hb2, hx2⟩ := ih _ hsh'
    rw [List.foldl_cons]
    refine ⟨ht2.trans ht, hsh2, fun l s x => ?_, fun n => ?_⟩
    · rw [hb2, hb, ht]; simp only [List.mem_cons, or_and_right, exists_or, exists_eq_left, or_assoc]
    · rw [hx2, hx, ht]; simp only [List.mem_cons, or_and_right, exists_or, exists_eq_left, or_assoc]

/-- what sweeping a bucket leaves: the other buckets keep their entries; each node of this one is scheduled again where
    findBucket puts it now, or, if due, is among the expired -/
theorem sweepBucket_spec (w : Wheel) (hsh : Shape w) {lvl slot : Nat} (hl : lvl < 5) (hs : slot < buckets lvl) :
    (sweepBucket w lvl slot).1.time = w.time ∧ Shape (sweepBucket w lvl slot).1 ∧
    (∀ l s x, x ∈ (sweepBucket w lvl slot).1.bucket l s ↔
      (¬ (l = lvl ∧ s = slot) ∧ x ∈ w.bucket l s) ∨ ∃ y, y ∈ w.bucket lvl slot ∧ Readded w.time y l s x) ∧
    (∀ n, n ∈ (sweepBucket w lvl slot).2 ↔ ∃ y, y ∈ w.bucket lvl slot ∧ y.d < w.time ∧ y.id = n) := by
  obtain ⟨ht, hsh', hb, hx⟩ :=
    foldl_sweepEnt_spec (w.bucket lvl slot) (w.setBucket lvl slot [], []) (shape_setBucket w _ _ _ hsh)
  refine ⟨ht, hsh', fun l s x => (hb l s x).trans ?_, fun n => (hx n).trans (or_iff_right List.not_mem_nil)⟩
  dsimp only [time_setBucket]
  rw [bucket_setBucket w lvl slot l s [] hsh hl hs]
  by_cases e : l = lvl ∧ s = slot
  · rw [if_pos e]; exact or_congr_left ⟨nofun, fun h => absurd e h.1⟩
  · rw [if_neg e]; exact or_congr_left ⟨fun h => ⟨e, h⟩, And.right⟩

/-! ### the loops of DeleteExpired -/

/-- in the middle of a sweep from time t to time T: every entry is correctly placed for t, and for T at the locations D
    that have been swept -/
structure Sweeping (t T : Nat) (D : Nat → Nat → Prop) (w : Wheel) : Prop where
  time : w.time = T
  shape : Shape w
  good : ∀ l s x, x ∈ w.bucket l s → Good t l s x ∧ (D l s → Good T l s x)

theorem Sweeping.weaken {t T : Nat} {D D' : Nat → Nat → Prop} {w : Wheel} (h : Sweeping t T D w) (hD : ∀ l s, D' l s → D l s) :
    Sweeping t T D' w :=
  ⟨h.time, h.shape, fun l s x hx => ⟨(h.good l s x hx).1, fun hd => (h.good l s x hx).2 (hD l s hd)⟩⟩

/-- the slot the k-th step of a level sweep visits -/
def slotOf (lvl pt k : Nat) : Nat := (pt % buckets lvl + k) % buckets lvl

def levelStep (lvl pt : Nat) (acc : Wheel × List Nat) (k : Nat) : Wheel × List Nat :=
  ((sweepBucket acc.1 lvl (slotOf lvl pt k)).1, acc.2 ++ (sweepBucket acc.1 lvl (slotOf lvl pt k)).2)

theorem sweepLevel_eq (w : Wheel) (lvl pt delta : Nat) :
    sweepLevel w lvl pt delta = (List.range (min (delta + 1) (buckets lvl))).foldl (levelStep lvl pt) (w, []) := rfl

/-- DeleteExpired is a sequence of bucket sweeps: what each of them preserves holds of the result (of the wheel and the nodes
    expired so far) -/
theorem deleteExpired_bucketwise {P : Wheel × List Nat → Prop}
    (hP : ∀ (w : Wheel) (ex : List Nat) (lvl slot : Nat), lvl < 5 → slot < buckets lvl →
      P (w, ex) → P ((sweepBucket w lvl slot).1, ex ++ (sweepBucket w lvl slot).2))
    (w : Wheel) (T : Nat) (h : P ({ w with time := T }, [])) : P (deleteExpired w T) := by
  have level {w' : Wheel} {ex : List Nat} (h' : P (w', ex)) {lvl : Nat} (hl : lvl < 5) (pt delta : Nat) :
      P ((sweepLevel w' lvl pt delta).1, ex ++ (sweepLevel w' lvl pt delta).2) := by
    rw [sweepLevel_eq]
    induction min (delta + 1) (buckets lvl) with
    | zero => rw [List.range_zero, List.foldl_nil, List.append_nil]; exact h'
    | succ m ih =>
      rw [List.range_succ, List.foldl_append, List.foldl_cons, List.foldl_nil, levelStep, ← List.append_assoc]
      exact hP _ _ lvl _ hl (Nat.mod_lt _ (buckets_pos lvl)) ih
  unfold deleteExpired
  generalize ({ w with time := T } : Wheel) = w' at h ⊢
  generalize ([] : List Nat) = ex at h ⊢
  fun_induction deleteExpired.go T w.time w' ex 0 5 with
  | case1 | case2 | case3 => exact h
  | case4 w' ex i fuel hlt pt ct delta _ ih => exact ih (level h (by omega) pt delta)

section Sweep
variable {t T : Nat} {D : Nat → Nat → Prop} (htT : t ≤ T) (hT : T < two64)
include htT hT

/-- sweeping a bucket empties it and re-adds what is not yet due: the bucket joins the swept locations -/
theorem sweeping_sweepBucket {w : Wheel} (h : Sweeping t T D w) {lvl slot : Nat} (hl : lvl < 5) (hs : slot < buckets lvl) :
    Sweeping t T (fun l s => D l s ∨ (l = lvl ∧ s = slot)) (sweepBucket w lvl slot).1 := by
  obtain rfl := h.time
  obtain ⟨ht, hsh, hb, _⟩ := sweepBucket_spec w h.shape hl hs
  refine ⟨ht, hsh, fun l s x hx => ?_⟩
  rcases (hb l s x).mp hx with ⟨hne, hx⟩ | ⟨y, hy, _, rfl, rfl, rfl⟩
  · exact ⟨(h.good l s x hx).1, fun hd => hd.elim (h.good l s x hx).2 (fun e => absurd e hne)⟩
  · -- a node added during the sweep is placed for T, hence for t
    have hg := findBucket_good w.time y.d y.id hT (h.good lvl slot y hy).1.d_lt
    exact ⟨hg.earlier htT, fun _ => hg⟩

theorem sweeping_levelSteps {w : Wheel} (h : Sweeping t T D w) {lvl : Nat} (hl : lvl < 5) (pt m : Nat) :
    Sweeping t T (fun l s => D l s ∨ (l = lvl ∧ ∃ k, k < m ∧ s = slotOf lvl pt k))
      ((List.range m).foldl (levelStep lvl pt) (w, [])).1 := by
  induction m with
  | zero => exact h.weaken fun l s hd => hd.elim id fun ⟨_, k, hk, _⟩ => absurd hk (Nat.not_lt_zero k)
  | succ m ih =>
    rw [List.range_succ, List.foldl_append]
    -- the slots of the first m + 1 steps are those of the first m and that of step m
    exact (sweeping_sweepBucket htT hT ih hl (slot := slotOf lvl pt m) (Nat.mod_lt _ (buckets_pos lvl))).weaken
      fun l s hd => by grind

/-- sweeping level i (levels below it done) brings it up to date: a slot the sweep does not visit holds only ticks after T's -/
theorem sweeping_sweepLevel {w : Wheel} {i : Nat} (hi : i < 5) (h : Sweeping t T (fun l _ => l < i) w) :
    Sweeping t T (fun l _ => l < i + 1) (sweepLevel w i (t >>> shift i) (T >>> shift i - t >>> shift i)).1 := by
  rw [sweepLevel_eq]
  have hm := sweeping_levelSteps htT hT h hi (t >>> shift i) (min (T >>> shift i - t >>> shift i + 1) (buckets i))
  refine ⟨hm.time, hm.shape, fun l s x hx => ?_⟩
  obtain ⟨h0, hv⟩ := hm.good l s x hx
  refine ⟨h0, fun hl => ?_⟩
  by_cases hlt : l < i
  · exact hv (Or.inl hlt)
  · obtain rfl : l = i := by omega
    by_cases hvis : ∃ k, k < min (T >>> shift l - t >>> shift l + 1) (buckets l) ∧ s = slotOf l (t >>> shift l) k
    · exact hv (Or.inr ⟨rfl, hvis⟩)
    · refine h0.retime (Or.inr (Nat.lt_of_not_le fun hle => hvis ?_))
      rw [h0.sl]
      exact visited_of_between (buckets l) _ _ _ (buckets_pos l) h0.tick_le hle

omit htT hT in
/-- the cascade stops after level 4, or at a level whose tick did not advance: then no coarser tick advanced either -/
theorem sweeping_done {w : Wheel} {i : Nat} (h : Sweeping t T (fun l _ => l < i) w)
    (hi : 5 ≤ i ∨ t >>> shift i = T >>> shift i) : InvAt T w := by
  refine ⟨h.shape, fun l s x hx => ?_⟩
  obtain ⟨h0, hv⟩ := h.good l s x hx
  by_cases hlt : l < i
  · exact hv hlt
  · rcases hi with hi | heq
    · exact absurd h0.lv (by omega)
    · refine h0.retime (Or.inl (Nat.le_of_eq ?_))
      have hs := shift_mono l h0.lv i (by omega)
      rw [show shift l = shift i + (shift l - shift i) by omega, Nat.shiftRight_add, Nat.shiftRight_add, heq]

theorem deleteExpired_go_inv (w : Wheel) (ex : List Nat) (i fuel : Nat) (h : Sweeping t T (fun l _ => l < i) w)
    (hf : 5 ≤ i + fuel) : (deleteExpired.go T t w ex i fuel).1.time = T ∧ InvAt T (deleteExpired.go T t w ex i fuel).1 := by
  -- the code's wrapping difference of the two ticks is the plain one
  have hd (i : Nat) : (T >>> shift i + two64 - t >>> shift i) % two64 = T >>> shift i - t >>> shift i :=
    delta_eq _ _ (shr_mono htT) (Nat.lt_of_le_of_lt (Nat.shiftRight_le _ _) hT)
  fun_induction deleteExpired.go T t w ex i fuel with
  | case1 w ex i => exact ⟨h.time, sweeping_done h (Or.inl hf)⟩
  | case2 w ex i fuel hge => exact ⟨h.time, sweeping_done h (Or.inl hge)⟩
  | case3 w ex i fuel _ pt ct delta hz =>
    have hle : pt ≤ ct := shr_mono htT
    have : ct - pt = 0 := (hd i).symm.trans (beq_iff_eq.mp hz)
    exact ⟨h.time, sweeping_done h (Or.inr (by omega))⟩
  | case4 w ex i fuel hlt pt ct delta _ ih =>
    rw [show delta = ct - pt from hd i] at ih ⊢
    exact ih (sweeping_sweepLevel htT hT (by omega) h) (by omega)

end Sweep

/-- DeleteExpired(T) from a wheel whose entries are all correctly placed for its time leaves every remaining entry
    correctly placed for T -/
theorem deleteExpired_inv (w : Wheel) (T : Nat) (hT : T < two64) (htT : w.time ≤ T) (h : InvAt w.time w) :
    (deleteExpired w T).1.time = T ∧ InvAt T (deleteExpired w T).1 :=
  deleteExpired_go_inv htT hT { w with time := T } [] 0 5
    ⟨rfl, h.1, fun l s x hx => ⟨h.2 l s x hx, fun hl => absurd hl (Nat.not_lt_zero l)⟩⟩ (Nat.le_refl 5)

/-! ### every reachable wheel -/

theorem shape_init : Shape ({} : Wheel) := ⟨rfl, by decide⟩

theorem bucket_init (l s : Nat) : ({} : Wheel).bucket l s = [] := by
  show ((nBuckets.map fun b => List.replicate b ([] : List Ent)).getD l []).getD s [] = []
  simp only [List.getD_eq_getElem?_getD, List.getElem?_map]
  cases nBuckets[l]? with
  | none => rfl
  | some b =>
    simp only [Option.map_some, Option.getD_some, List.getElem?_replicate]
    split <;> rfl

theorem shape_delete (w : Wheel) (n : Nat) (h : Shape w) : Shape (delete w n) := by
  unfold delete Shape at *
  refine ⟨by simp only [List.length_map]; exact h.1, fun i hi => ?_⟩
  simp only [List.getD_eq_getElem?_getD, List.getElem?_map]
  have := h.2 i hi
  simp only [List.getD_eq_getElem?_getD] at this
  cases hh : w.wheel[i]? with
  | none => rw [hh] at this; simpa using this
  | some lv => rw [hh] at this; simpa using this

theorem bucket_delete (w : Wheel) (n l s : Nat) : (delete w n).bucket l s = (w.bucket l s).filter (·.id != n) := by
  unfold delete Wheel.bucket
  simp only [List.getD_eq_getElem?_getD, List.getElem?_map]
  cases w.wheel[l]? with
  | none => rfl
  | some lv =>
    simp only [Option.map_some, Option.getD_some, List.getElem?_map]
    cases lv[s]? with
    | none => rfl
    | some b => rfl

/-- the wheels reachable by Add (of any node, with a deadline below 2^64), Delete and DeleteExpired with a monotone clock
    below 2^64 -/
inductive WReach : Wheel → Prop
  | init : WReach {}
  | add {w : Wheel} (n d : Nat) : WReach w → d < two64 → WReach (add w n d)
  | del {w : Wheel} (n : Nat) : WReach w → WReach (delete w n)
  | sweep {w : Wheel} (T : Nat) : WReach w → w.time ≤ T → T < two64 → WReach (deleteExpired w T).1

theorem wreach_inv {w : Wheel} (h : WReach w) : w.time < two64 ∧ InvAt w.time w := by
  induction h with
  | init =>
    refine ⟨by decide, shape_init, fun l s x hx => ?_⟩
    rw [bucket_init] at hx; cases hx
  | @add w n d _ hd ih =>
    refine ⟨ih.1, shape_setBucket w _ _ _ ih.2.1, fun l s x hx => ?_⟩
    rcases (mem_bucket_add ih.2.1 n d l s x).mp hx with hx | ⟨rfl, rfl, rfl⟩
    · exact ih.2.2 l s x hx
    · exact findBucket_good w.time d n ih.1 hd
  | del n _ ih =>
    refine ⟨ih.1, shape_delete _ n ih.2.1, fun l s x hx => ?_⟩
    rw [bucket_delete] at hx
    exact ih.2.2 l s x (List.mem_filter.mp hx).1
  | sweep T _ hle hT ih =>
    have := deleteExpired_inv _ T hT hle ih.2
    exact ⟨by rw [this.1]; exact hT, by rw [this.1]; exact this.2⟩

end OtterVerif.Impl.Wheel
