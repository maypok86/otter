/-
  Proofs.TableRefine — Impl.Table (the transcription of cache_impl.go's per-key decision code) refines Spec.Core (the map with
  deadlines written from the property texts).  A node is its (value, weight, expiration deadline, refresh deadline); the table
  is the spec's map.  Every calculator of the code does the same thing to its deadline (`moved`), the spec's two write rules
  are one function of the Kind (`afterWrite`); `write_create` / `write_update` compare the two Kind by Kind, once for expiry
  and refresh alike.  Each whole step is proved once for any relation `MapRel` between the table's list and the spec's
  (`*_sim`); the `*_refines` are the instances at list equality.  Side conditions (explicit): `NearOrigin`, `KindOk`,
  `ReadOk`, `NodeOk`.
-/
import OtterVerif.Impl.Table
import OtterVerif.Proofs.MapLemmas

namespace OtterVerif.Proofs.TableRefine
open OtterVerif OtterVerif.Impl.Table
open OtterVerif.Spec (Cause Event Out Entry Cfg Kind)

def absN (n : TNode) : Entry := { val := n.val, weight := n.weight, exp := n.exp, ref := n.ref }
def absT (t : Tbl) : List (Nat × Entry) := t.map (fun p => (p.1, absN p.2))

/-- the code-level calculators for a spec configuration, exactly as the library's built-in calculators behave ("keep" = return
    the entry's current duration) -/
def cfgOf (c : Cfg) : TCfg where
  withExp := c.withExpiry
  withRef := c.withRefresh
  weigh := c.weigh
  expCreate := fun k _ _ => match c.expiry with
    | .creating d => d | .writing d => d | .accessing d => d | .custom => c.expCreate.get k | .none => 0
  expUpdate := fun k _ cur => match c.expiry with
    | .creating _ => cur | .writing d => d | .accessing d => d | .custom => c.expUpdate.get k | .none => 0
  expRead := fun k _ cur => match c.expiry with
    | .accessing d => d | .custom => c.expRead.get k | _ => cur
  refCreate := fun k _ _ => match c.refresh with
    | .creating d => d | .writing d => d | .accessing d => d | .custom => c.refCreate.get k | .none => 0
  refUpdate := fun k _ cur => match c.refresh with
    | .creating _ => cur | .writing d => d | .accessing d => d | .custom => c.refUpdate.get k | .none => 0
  refReload := fun k _ cur => match c.refresh with
    | .creating _ => cur | .writing d => d | .accessing d => d | .custom => c.refReload.get k | .none => 0
  refFail := fun k _ cur => match c.refresh with
    | .custom => c.refFail.get k | _ => cur

/-- built-in durations are positive (the constructors of the library reject others) -/
def KindOk : Kind → Prop
  | .creating d => 0 < d
  | .writing d => 0 < d
  | .accessing d => 0 < d
  | _ => True

/-- the clock reading lies within ±2^62 ns (about ±146 years) of the clock's reference point.  Then the current duration the
    code hands to the calculators, `int64(deadline - now)` (`durationTo`), does not wrap for any deadline a node can carry
    (`keep_or_set`).  The end results spell the two bounds out; `TableTrace.InRange` is the same condition under the name the
    history theorems use. -/
def NearOrigin (now : Int) : Prop := -4611686018427387904 < now ∧ now < 4611686018427387904

theorem NearOrigin.le_of_lt {now x : Int} (h : NearOrigin now) (hx : now < x) : -4611686018427387904 ≤ x := by
  have := h.1; omega

theorem deadlineAfter_eq_satAdd (now d : Int) : deadlineAfter now d = satAdd now d := by
  unfold deadlineAfter satAdd; split <;> split <;> omega

/-! ### visibility and causes -/

theorem visible_iff_live (n : TNode) (now : Int) : (!hasExpired n now) = (absN n).liveAt now := by
  unfold hasExpired Entry.liveAt absN
  by_cases h : n.exp ≤ now <;> simp [h] <;> omega

theorem cause_eq (n : TNode) (now : Int) (c : Cause) : getCause n now c = Spec.causeOf (absN n) now c := by
  unfold getCause Spec.causeOf
  rw [← visible_iff_live]
  cases hasExpired n now <;> rfl

theorem hasExpired_false {n : TNode} {now : Int} : hasExpired n now = false ↔ now < n.exp := by
  unfold hasExpired; simp

theorem visiblePrev_some {old : Option TNode} {now : Int} {o : TNode} (h : visiblePrev old now = some o) :
    old = some o ∧ now < o.exp := by
  unfold visiblePrev at h
  cases old with
  | none => cases h
  | some o' =>
    cases hx : hasExpired o' now <;> simp only [hx, Bool.false_eq_true, ↓reduceIte, Option.some.injEq, reduceCtorEq] at h
    subst h
    exact ⟨rfl, hasExpired_false.mp hx⟩

/-! ### deadlines: inherit, ask the calculator, set unless told to keep -/

/-- an answer that is the current duration `int64(inherit - now)` asks for the deadline that is there: within these ranges the
    subtraction does not wrap -/
theorem keep_or_set (inherit now d : Int) (hnow : -4611686018427387904 < now ∧ now < 4611686018427387904)
    (hin : inherit ≤ maxI64) (hpos : 0 < d) (hvis : -4611686018427387904 ≤ inherit)
    (hcur : durationTo inherit now = d) : inherit = satAdd now d := by
  unfold durationTo wrapS at hcur
  unfold satAdd maxI64 at *
  split <;> omega

/-- the step all calculators share, with the code's test: with the policy on, the deadline `x` moves to `now + d` if the answer
    `d` is positive and is not the current duration `int64(x - now)` — the built-in calculators say "keep" by answering with
    the current duration -/
def moved (on : Bool) (x now d : Int) : Int :=
  if on && (decide (d > 0) && durationTo x now != d) then deadlineAfter now d else x

theorem moved_off (x now d : Int) : moved false x now d = x := rfl

theorem moved_cur (on : Bool) (x now : Int) : moved on x now (durationTo x now) = x := by
  simp [moved]

theorem deadlineAfter_le (now d : Int) : deadlineAfter now d ≤ maxI64 := by
  unfold deadlineAfter; split <;> omega

theorem deadlineAfter_ge (now d : Int) (hn : NearOrigin now) (hd : 0 < d) :
    -4611686018427387904 ≤ deadlineAfter now d := by
  have := hn.1
  unfold deadlineAfter maxI64; split <;> omega

theorem moved_le {on : Bool} {x now d : Int} (h : x ≤ maxI64) : moved on x now d ≤ maxI64 := by
  unfold moved
  split
  · exact deadlineAfter_le now d
  · exact h

theorem moved_ge {on : Bool} {x now d : Int} (hn : NearOrigin now) (h : -4611686018427387904 ≤ x) :
    -4611686018427387904 ≤ moved on x now d := by
  unfold moved
  split
  · rename_i hc
    simp only [Bool.and_eq_true, decide_eq_true_eq] at hc
    exact deadlineAfter_ge now d hn hc.2.1
  · exact h

/-- "set unless told to keep" is "set if the answer is positive": when the answer is the current duration, the deadline kept
    is the one that would be set -/
theorem moved_on (x now d : Int) (hnow : NearOrigin now) (hin : x ≤ maxI64) (hvis : -4611686018427387904 ≤ x) :
    moved true x now d = if 0 < d then satAdd now d else x := by
  unfold moved
  by_cases hd : 0 < d
  · by_cases hc : durationTo x now = d
    · simp only [hc, bne_self_eq_false, Bool.and_false, Bool.false_eq_true, ↓reduceIte, hd]
      exact keep_or_set x now d hnow hin hd hvis hc
    · simp [hd, hc, deadlineAfter_eq_satAdd]
  · simp [hd]

/-! what each calculator does to the node, for any calculators -/

theorem ite_exp (b : Bool) (n : TNode) (y : Int) :
    (if b then { n with exp := y } else n) = { n with exp := if b then y else n.exp } := by
  cases b <;> rfl

theorem ite_ref (b : Bool) (n : TNode) (y : Int) :
    (if b then { n with ref := y } else n) = { n with ref := if b then y else n.ref } := by
  cases b <;> rfl

theorem calcExp_eq {c : TCfg} {n : TNode} {old : Option TNode} {now : Int}
    (hold : ∀ o, old = some o → hasExpired o now = false) :
    calcExpiresAtAfterWrite c n old now =
      { n with exp := (moved c.withExp n.exp now
          ((if old.isSome then c.expUpdate else c.expCreate) n.key n.val (durationTo n.exp now))) } := by
  unfold calcExpiresAtAfterWrite moved
  cases c.withExp
  · rfl
  · cases old with
    | none => exact ite_exp _ _ _
    | some o => simp only [hold o rfl]; exact ite_exp _ _ _

/-- the calculator calcRefreshableAt asks -/
def refCalc (c : TCfg) (kd : RefKind) (old : Option TNode) : Nat → Nat → Int → Int :=
  match kd, old with
  | .reload, some _ => c.refReload
  | .failure, some _ => c.refFail
  | _, some _ => c.refUpdate
  | _, none => c.refCreate

theorem calcRef_eq (c : TCfg) (n : TNode) (old : Option TNode) (kd : RefKind) (now : Int) :
    calcRefreshableAt c n old kd now =
      { n with ref := moved c.withRef n.ref now (refCalc c kd old n.key n.val (durationTo n.ref now)) } := by
  unfold calcRefreshableAt moved refCalc
  cases c.withRef
  · rfl
  · cases kd <;> cases old <;> exact ite_ref _ _ _

/-- a read tests `d ≤ 0` first and compares the other way round -/
theorem calcRead_eq (c : TCfg) (n : TNode) (now : Int) :
    calcExpiresAtAfterRead c n now =
      { n with exp := moved c.withExp n.exp now (c.expRead n.key n.val (durationTo n.exp now)) } := by
  unfold calcExpiresAtAfterRead moved
  cases c.withExp
  · rfl
  · generalize c.expRead n.key n.val (durationTo n.exp now) = d
    by_cases hd : d ≤ 0
    · simp [hd, Int.not_lt.mpr hd]
    · simp only [Bool.not_true, Bool.false_eq_true, ↓reduceIte, hd, gt_iff_lt, Int.not_le.mp hd, decide_true, Bool.true_and,
        bne_comm (a := d)]
      exact ite_exp _ _ _

/-! the library's calculators against the spec's rules -/

/-- what the built-in calculators answer when an entry is created and when it is updated, by Kind (`t`: the per-key table's
    duration; `cur`: the current duration, the answer for "keep"): the five write slots of `cfgOf` -/
def onCreate (e : Kind) (t : Int) : Int :=
  match e with | .creating d => d | .writing d => d | .accessing d => d | .custom => t | .none => 0
def onUpdate (e : Kind) (t cur : Int) : Int :=
  match e with | .creating _ => cur | .writing d => d | .accessing d => d | .custom => t | .none => 0

/-- the spec's rule for either deadline of a write, by Kind: `tc`, `tu` the per-key durations for a creation and for an
    update, `x` the deadline of the live predecessor -/
def afterWrite (e : Kind) (tc tu now : Int) (x : Option Int) : Int :=
  match e, x with
  | .none, _ => maxI64
  | .creating d, none => satAdd now d
  | .creating _, some x => x
  | .writing d, _ => satAdd now d
  | .accessing d, _ => satAdd now d
  | .custom, none => if tc > 0 then satAdd now tc else maxI64
  | .custom, some x => if tu > 0 then satAdd now tu else x

theorem expAfterWrite_eq (c : Cfg) (now : Int) (k : Nat) (pred : Option Entry) :
    Spec.expAfterWrite c now k pred = afterWrite c.expiry (c.expCreate.get k) (c.expUpdate.get k) now (pred.map (·.exp)) := by
  unfold Spec.expAfterWrite afterWrite
  cases c.expiry <;> cases pred <;> rfl

theorem refAfterWrite_eq (c : Cfg) (now : Int) (k : Nat) (pred : Option Entry) (wk : Spec.WriteKind) :
    Spec.refAfterWrite c now k pred wk =
      afterWrite c.refresh (c.refCreate.get k) (if wk == .reload then c.refReload.get k else c.refUpdate.get k) now
        (pred.map (·.ref)) := by
  unfold Spec.refAfterWrite afterWrite
  cases c.refresh <;> cases pred <;> rfl

/-- a creation: nothing is inherited (newNode stores MaxInt64) -/
theorem write_create (e : Kind) (hk : KindOk e) {tc tu : Int} (now : Int) (hnow : NearOrigin now) :
    moved (e != .none) maxI64 now (onCreate e tc) = afterWrite e tc tu now none := by
  have hs := fun d => moved_on maxI64 now d hnow (Int.le_refl _) (by unfold maxI64; omega)
  cases e with
  | none => rfl
  | creating d | writing d | accessing d => exact (hs d).trans (if_pos hk)
  | custom => exact hs tc

/-- an update of the visible predecessor with deadline `y`, which newNode inherits if the policy is on -/
theorem write_update (e : Kind) (hk : KindOk e) {tc tu : Int} (now : Int)
    (hnow : NearOrigin now) (y : Int) (hy : -4611686018427387904 ≤ y ∧ y ≤ maxI64) :
    moved (e != .none) (if (e != .none) = true then y else maxI64) now
      (onUpdate e tu (durationTo (if (e != .none) = true then y else maxI64) now)) = afterWrite e tc tu now (some y) := by
  have hs := fun d => moved_on y now d hnow hy.2 hy.1
  cases e with
  | none => rfl
  | creating d => exact moved_cur _ y now
  | writing d | accessing d => exact (hs d).trans (if_pos hk)
  | custom => exact hs tu

theorem exp_refines (c : Cfg) (k v : Nat) (prev : Option TNode) (now : Int)
    (hnow : -4611686018427387904 < now ∧ now < 4611686018427387904)
    (hprev : ∀ o, prev = some o → now < o.exp ∧ o.exp ≤ maxI64) (hk : KindOk c.expiry) :
    (calcExpiresAtAfterWrite (cfgOf c) (newNode (cfgOf c) k v prev) prev now).exp
      = Spec.expAfterWrite c now k (prev.map absN) := by
  rw [calcExp_eq (fun o ho => hasExpired_false.mpr (hprev o ho).1), expAfterWrite_eq]
  cases prev with
  | none => exact write_create c.expiry hk now hnow
  | some o => exact write_update c.expiry hk now hnow o.exp ⟨NearOrigin.le_of_lt hnow (hprev o rfl).1, (hprev o rfl).2⟩

/-- the refresh deadline of a write, for a plain write and (`rl`) for the installation of a reload: without a visible
    predecessor calcRefreshableAt asks RefreshAfterCreate whatever the call is -/
theorem ref_eq (c : Cfg) (k v : Nat) (n : TNode) (prev : Option TNode) (now : Int) (rl : Bool) (hnow : NearOrigin now)
    (hn : n.key = k ∧ n.ref = (newNode (cfgOf c) k v prev).ref)
    (hprev : ∀ o, prev = some o → -4611686018427387904 ≤ o.ref ∧ o.ref ≤ maxI64) (hk : KindOk c.refresh) :
    (calcRefreshableAt (cfgOf c) n prev (if rl then .reload else .plain) now).ref
      = Spec.refAfterWrite c now k (prev.map absN) (if rl && (prev.map absN).isSome then .reload else .normal) := by
  obtain ⟨rfl, h2⟩ := hn
  rw [calcRef_eq, refAfterWrite_eq]
  simp only [h2]
  cases prev with
  | none => cases rl <;> exact write_create c.refresh hk now hnow
  | some o => cases rl <;> exact write_update c.refresh hk now hnow o.ref (hprev o rfl)

theorem ref_refines (c : Cfg) (k v : Nat) (n : TNode) (prev : Option TNode) (now : Int)
    (hnow : -4611686018427387904 < now ∧ now < 4611686018427387904)
    (hn : n.key = k ∧ n.ref = (newNode (cfgOf c) k v prev).ref)
    (hprev : ∀ o, prev = some o → -4611686018427387904 ≤ o.ref ∧ o.ref ≤ maxI64) (hk : KindOk c.refresh) :
    (calcRefreshableAt (cfgOf c) n prev .plain now).ref = Spec.refAfterWrite c now k (prev.map absN) .normal := by
  simpa using ref_eq c k v n prev now false hnow hn hprev hk

theorem ref_refines_reload (c : Cfg) (k v : Nat) (n : TNode) (o : TNode) (now : Int)
    (hnow : -4611686018427387904 < now ∧ now < 4611686018427387904)
    (hn : n.key = k ∧ n.ref = (newNode (cfgOf c) k v (some o)).ref)
    (hprev : -4611686018427387904 ≤ o.ref ∧ o.ref ≤ maxI64) (hk : KindOk c.refresh) :
    (calcRefreshableAt (cfgOf c) n (some o) .reload now).ref = Spec.refAfterWrite c now k (some (absN o)) .reload := by
  simpa using ref_eq c k v n (some o) now true hnow hn (fun _ ho => by cases ho; exact hprev) hk

/-! ### the table as the spec's map -/

theorem find_absT (t : Tbl) (k : Nat) : Spec.find (absT t) k = (lookup t k).map absN := by
  unfold Spec.find absT lookup
  rw [List.find?_map, Option.map_map, Option.map_map]
  rfl

theorem erase_absT (t : Tbl) (k : Nat) : Spec.erase (absT t) k = absT (unlink t k) := by
  unfold Spec.erase absT unlink
  rw [List.filter_map]
  rfl

theorem put_absT (t : Tbl) (k : Nat) (n : TNode) : Spec.put (absT t) k (absN n) = absT (store t k n) := by
  unfold Spec.put store
  rw [erase_absT]
  rfl

theorem lookup_store (t : Tbl) (k j : Nat) (n : TNode) : lookup (store t k n) j = if j = k then some n else lookup t j := by
  unfold lookup store
  rw [find?_cons_filter_key]
  split <;> rfl

theorem lookup_unlink (t : Tbl) (k j : Nat) : lookup (unlink t k) j = if j = k then none else lookup t j := by
  unfold lookup unlink
  rw [find?_filter_key]
  split <;> rfl

def MapEq (a b : List (Nat × Entry)) : Prop := ∀ j, Spec.find a j = Spec.find b j

/-- a relation between the table's list and the spec's under which the refinement of one step can be stated: the lists denote
    the same map, and stay related when both are updated alike.  List equality is one (Set, Invalidate, the reads and Compute
    do the same list operation on both sides), `MapEq` the other (SetExpiresAfter, SetRefreshableAfter and a failed reload
    re-insert an entry in the spec where the code leaves the table alone). -/
structure MapRel (R : List (Nat × Entry) → List (Nat × Entry) → Prop) : Prop where
  find : ∀ {a b}, R a b → MapEq a b
  put : ∀ {a b}, R a b → ∀ k e, R (Spec.put a k e) (Spec.put b k e)
  erase : ∀ {a b}, R a b → ∀ k, R (Spec.erase a k) (Spec.erase b k)

theorem MapRel.eq : MapRel Eq :=
  ⟨fun h _ => by rw [h], fun h _ _ => by rw [h], fun h _ => by rw [h]⟩

theorem MapRel.mapEq : MapRel MapEq :=
  ⟨id, fun h k e j => by rw [Spec.find_put, Spec.find_put, h j], fun h k j => by rw [Spec.find_erase, Spec.find_erase, h j]⟩

theorem MapEq.of_eq {a b : List (Nat × Entry)} (h : a = b) : MapEq a b := fun _ => by rw [h]

theorem MapEq.trans {a b c : List (Nat × Entry)} (h1 : MapEq a b) (h2 : MapEq b c) : MapEq a c := fun j => (h1 j).trans (h2 j)

theorem mapEq_put_same (m : List (Nat × Entry)) (k : Nat) (e : Entry) (h : Spec.find m k = some e) :
    MapEq m (Spec.put m k e) := by
  intro j
  rw [Spec.find_put]
  split
  · subst j; exact h
  · rfl

theorem MapRel.store {R} (hR : MapRel R) {t : Tbl} {m : List (Nat × Entry)} (h : R (absT t) m) (k : Nat) (n : TNode) :
    R (absT (store t k n)) (Spec.put m k (absN n)) := by
  rw [← put_absT]; exact hR.put h k _

theorem MapRel.unlink {R} (hR : MapRel R) {t : Tbl} {m : List (Nat × Entry)} (h : R (absT t) m) (k : Nat) :
    R (absT (unlink t k)) (Spec.erase m k) := by
  rw [← erase_absT]; exact hR.erase h k

theorem live_clearInflight (s : Spec.State) (k j : Nat) : (s.clearInflight j).live k = s.live k := rfl
theorem phys_clearInflight (s : Spec.State) (k j : Nat) : (s.clearInflight j).phys k = s.phys k := rfl

theorem phys_map {s : Spec.State} {t : Tbl} (h : MapEq (absT t) s.m) (k : Nat) : s.phys k = (lookup t k).map absN := by
  unfold Spec.State.phys; rw [← h k, find_absT]

/-- how a key stands in a table and a spec state that denote the same map: not mapped, mapped with its deadline passed
    (physically present, not observable), or visible -/
inductive Slot (s : Spec.State) (t : Tbl) (k : Nat) : Prop where
  | absent (hl : lookup t k = none) (hp : s.phys k = none) (hv : s.live k = none)
  | expired (o : TNode) (hl : lookup t k = some o) (hx : hasExpired o s.now = true)
      (hp : s.phys k = some (absN o)) (hv : s.live k = none)
  | visible (o : TNode) (hl : lookup t k = some o) (hx : hasExpired o s.now = false)
      (hp : s.phys k = some (absN o)) (hv : s.live k = some (absN o))

theorem Slot.of_mapEq {s : Spec.State} {t : Tbl} (h : MapEq (absT t) s.m) (k : Nat) : Slot s t k := by
  have hp := phys_map h k
  have hv : s.live k = (s.phys k).filter (fun e => e.liveAt s.now) := rfl
  cases hl : lookup t k with
  | none => rw [hl] at hp; rw [hp] at hv; exact .absent hl hp hv
  | some o =>
    rw [hl] at hp
    rw [hp, Option.map_some, Option.filter_some, ← visible_iff_live] at hv
    cases hx : hasExpired o s.now <;> rw [hx] at hv
    · exact .visible o hl hx hp hv
    · exact .expired o hl hx hp hv

theorem visiblePrev_live {s : Spec.State} {t : Tbl} (h : MapEq (absT t) s.m) (k : Nat) :
    (visiblePrev (lookup t k) s.now).map absN = s.live k := by
  cases Slot.of_mapEq h k with
  | absent hl hp hv => rw [hl, hv]; rfl
  | expired o hl hx hp hv => rw [hl, hv]; simp [visiblePrev, hx]
  | visible o hl hx hp hv => rw [hl, hv]; simp [visiblePrev, hx]

/-- well-formedness of what is stored under `k`: the node carries that key and its deadlines are int64 values, the refresh
    deadline not absurdly far in the past -/
def NodeOk (k : Nat) (o : TNode) : Prop :=
  o.key = k ∧ o.exp ≤ maxI64 ∧ -4611686018427387904 ≤ o.ref ∧ o.ref ≤ maxI64

/-! ### the write rule -/

theorem atomicSet_fst (c : TCfg) (k v : Nat) (old : Option TNode) (now : Int) (kd : RefKind) :
    (atomicSet c k v old now kd).1 =
      { newNode c k v (visiblePrev old now) with
        exp := (moved c.withExp (newNode c k v (visiblePrev old now)).exp now
          ((if (visiblePrev old now).isSome then c.expUpdate else c.expCreate) k v
            (durationTo (newNode c k v (visiblePrev old now)).exp now))),
        ref := (moved c.withRef (newNode c k v (visiblePrev old now)).ref now
          (refCalc c kd (visiblePrev old now) k v (durationTo (newNode c k v (visiblePrev old now)).ref now))) } := by
  show calcRefreshableAt c (calcExpiresAtAfterWrite c _ _ now) _ kd now = _
  rw [calcRef_eq, calcExp_eq (fun _ h => hasExpired_false.mpr (visiblePrev_some h).2)]
  rfl

theorem atomicSet_entry (c : Cfg) (s : Spec.State) (t : Tbl) (k v : Nat) (rl : Bool) (h : MapEq (absT t) s.m)
    (hnow : NearOrigin s.now) (hwf : ∀ o, lookup t k = some o → NodeOk k o) (hk1 : KindOk c.expiry) (hk2 : KindOk c.refresh) :
    absN (atomicSet (cfgOf c) k v (lookup t k) s.now (if rl then .reload else .plain)).1 =
      { val := v, weight := c.weigh k v, exp := Spec.expAfterWrite c s.now k (s.live k),
        ref := Spec.refAfterWrite c s.now k (s.live k)
          (if rl && (s.live k).isSome then Spec.WriteKind.reload else Spec.WriteKind.normal) } := by
  rw [atomicSet_fst, ← visiblePrev_live h k, expAfterWrite_eq, refAfterWrite_eq]
  -- both sides are `Entry.mk v (c.weigh k v)` of an expiration and a refresh deadline: compare the two pairs
  cases hp : visiblePrev (lookup t k) s.now with
  | none =>
    refine congr (congrArg (Entry.mk v (c.weigh k v)) ?_) ?_
    · exact write_create c.expiry hk1 s.now hnow
    · cases rl <;> exact write_create c.refresh hk2 s.now hnow
  | some o =>
    obtain ⟨hl, hvis⟩ := visiblePrev_some hp
    obtain ⟨_, hexp, href⟩ := hwf o hl
    refine congr (congrArg (Entry.mk v (c.weigh k v)) ?_) ?_
    · exact write_update c.expiry hk1 s.now hnow o.exp ⟨hnow.le_of_lt hvis, hexp⟩
    · cases rl <;> exact write_update c.refresh hk2 s.now hnow o.ref href

/-- **the write rule** (what Set, SetIfAbsent, Compute's WriteOp and a load's installation share): storing atomicSet's node is
    the spec's `write`, and the atomic deletion event for the mapped predecessor is the spec's -/
theorem write_sim {R} (hR : MapRel R) (c : Cfg) (s : Spec.State) (t : Tbl) (k v : Nat) (rl : Bool) (h : R (absT t) s.m)
    (hnow : NearOrigin s.now) (hwf : ∀ o, lookup t k = some o → NodeOk k o) (hk1 : KindOk c.expiry) (hk2 : KindOk c.refresh) :
    R (absT (store t k (atomicSet (cfgOf c) k v (lookup t k) s.now (if rl then .reload else .plain)).1))
      (Spec.write c s k v (if rl && (s.live k).isSome then .reload else .normal)).1.m ∧
    (atomicSet (cfgOf c) k v (lookup t k) s.now (if rl then .reload else .plain)).2
      = (Spec.write c s k v (if rl && (s.live k).isSome then .reload else .normal)).2 := by
  constructor
  · have := hR.store h k (atomicSet (cfgOf c) k v (lookup t k) s.now (if rl then .reload else .plain)).1
    rw [atomicSet_entry c s t k v rl (hR.find h) hnow hwf hk1 hk2] at this
    exact this
  · unfold Spec.write atomicSet
    rw [phys_map (hR.find h) k]
    cases hl : lookup t k with
    | none => rfl
    | some o => simp only [Option.map_some, (hwf o hl).1, cause_eq]; rfl

/-- **atomicDelete**: unlinking the mapped node, if there is one, and reporting it is the spec's `remove` -/
theorem remove_sim {R} (hR : MapRel R) {s : Spec.State} {t : Tbl} (h : R (absT t) s.m) (k : Nat)
    (hkey : ∀ o, lookup t k = some o → o.key = k) (cz : Cause) :
    R (absT (match lookup t k with | some _ => unlink t k | none => t)) (Spec.remove s k cz).1.m ∧
    (match lookup t k with
     | some o => [({ key := o.key, val := o.val, cause := getCause o s.now cz } : Event)]
     | none => []) = (Spec.remove s k cz).2 := by
  have hp := phys_map (hR.find h) k
  unfold Spec.remove
  cases hl : lookup t k with
  | none => rw [hl] at hp; rw [hp]; exact ⟨h, rfl⟩
  | some o => rw [hl] at hp; simp only [hp, Option.map_some, hkey o hl, cause_eq]; exact ⟨hR.unlink h k, rfl⟩

/-! ### whole steps

  Each operation is proved once, for any `MapRel`; the statements with list equality below are the instance `MapRel.eq`,
  the histories with loads and explicit deadlines (TableTraceFull) use the instance `MapRel.mapEq`. -/

theorem set_sim {R} (hR : MapRel R) (c : Cfg) (s : Spec.State) (t : Tbl) (k v : Nat) (h : R (absT t) s.m)
    (hnow : NearOrigin s.now) (hwf : ∀ o, lookup t k = some o → NodeOk k o) (hk1 : KindOk c.expiry) (hk2 : KindOk c.refresh) :
    R (absT (Impl.Table.set (cfgOf c) t k v false s.now).1) (Spec.set c s k v).1.m ∧
    (Impl.Table.set (cfgOf c) t k v false s.now).2.1 = (Spec.set c s k v).2.1 ∧
    (Impl.Table.set (cfgOf c) t k v false s.now).2.2 = (Spec.set c s k v).2.2 := by
  have hw := write_sim hR c (s.clearInflight k) t k v false h hnow hwf hk1 hk2
  cases Slot.of_mapEq (hR.find h) k with
  | absent hl hp hv => rw [hl] at hw; simp only [Impl.Table.set, Spec.set, hl, hv]; exact ⟨hw.1, rfl, hw.2⟩
  | expired o hl hx hp hv => rw [hl] at hw; simp [Impl.Table.set, Spec.set, hl, hx, hv]; exact ⟨hw.1, hw.2⟩
  | visible o hl hx hp hv => rw [hl] at hw; simp [Impl.Table.set, Spec.set, hl, hx, hv]; exact ⟨hw.1, rfl, hw.2⟩

/-- **Set**: new table, returned (value, ok) and the atomic deletion event are the spec's -/
theorem set_refines (c : Cfg) (s : Spec.State) (t : Tbl) (k v : Nat) (hs : s.m = absT t)
    (hnow : -4611686018427387904 < s.now ∧ s.now < 4611686018427387904)
    (hwf : ∀ o, lookup t k = some o → NodeOk k o) (hk1 : KindOk c.expiry) (hk2 : KindOk c.refresh) :
    absT (Impl.Table.set (cfgOf c) t k v false s.now).1 = (Spec.set c s k v).1.m ∧
    (Impl.Table.set (cfgOf c) t k v false s.now).2.1 = (Spec.set c s k v).2.1 ∧
    (Impl.Table.set (cfgOf c) t k v false s.now).2.2 = (Spec.set c s k v).2.2 :=
  set_sim MapRel.eq c s t k v hs.symm hnow hwf hk1 hk2

theorem invalidate_sim {R} (hR : MapRel R) (s : Spec.State) (t : Tbl) (k : Nat) (h : R (absT t) s.m)
    (hkey : ∀ o, lookup t k = some o → o.key = k) :
    R (absT (invalidate t k s.now).1) (Spec.invalidate s k).1.m ∧
    (invalidate t k s.now).2.1 = (Spec.invalidate s k).2.1 ∧
    (invalidate t k s.now).2.2 = (Spec.invalidate s k).2.2 := by
  have hr := remove_sim hR (s := s.clearInflight k) h k hkey .invalidation
  cases Slot.of_mapEq (hR.find h) k with
  | absent hl hp hv => rw [hl] at hr; simp only [invalidate, Spec.invalidate, hl, hv]; exact ⟨hr.1, trivial, hr.2⟩
  | expired o hl hx hp hv | visible o hl hx hp hv =>
    rw [hl] at hr; simp only [invalidate, Spec.invalidate, hl, hx, hv]; exact ⟨hr.1, rfl, hr.2⟩

theorem invalidate_refines (s : Spec.State) (t : Tbl) (k : Nat) (hs : s.m = absT t)
    (hwf : ∀ o, lookup t k = some o → o.key = k) :
    absT (invalidate t k s.now).1 = (Spec.invalidate s k).1.m ∧
    (invalidate t k s.now).2.1 = (Spec.invalidate s k).2.1 ∧
    (invalidate t k s.now).2.2 = (Spec.invalidate s k).2.2 :=
  invalidate_sim MapRel.eq s t k hs.symm hwf

/-! ### reads -/

/-- durations handed out by read calculators fit an int64 -/
def ReadOk (c : Cfg) : Prop :=
  (∀ d, c.expiry = .accessing d → 0 < d ∧ d ≤ maxI64) ∧ (∀ k, c.expRead.get k ≤ maxI64)

/-- the deadline a read stores (calcExpiresAtAfterRead + setExpiresAfterRead, which skips the store when the answer is the
    current duration) is the spec's expAfterRead -/
theorem read_refines (c : Cfg) (k : Nat) (o : TNode) (now : Int)
    (hnow : -4611686018427387904 < now ∧ now < 4611686018427387904)
    (hkey : o.key = k) (hvis : now < o.exp) (hmax : o.exp ≤ maxI64) (hr : ReadOk c) :
    absN (calcExpiresAtAfterRead (cfgOf c) o now) = { absN o with exp := Spec.expAfterRead c now k (absN o) } := by
  have hs := fun d => moved_on o.exp now d hnow hmax (NearOrigin.le_of_lt hnow hvis)
  have hexp : moved c.withExpiry o.exp now ((cfgOf c).expRead o.key o.val (durationTo o.exp now))
      = Spec.expAfterRead c now k (absN o) := by
    unfold Spec.expAfterRead
    simp only [cfgOf, Cfg.withExpiry, hkey]
    -- "creating" and "writing" answer a read with the current duration
    cases he : c.expiry with
    | accessing d => exact (hs d).trans (if_pos (hr.1 d he).1)
    | custom => exact hs _
    | none => rfl
    | creating d | writing d => exact moved_cur _ _ _
  rw [calcRead_eq]
  exact congrArg (fun x => Entry.mk o.val o.weight x o.ref) hexp

theorem touch_sim {R} (hR : MapRel R) (c : Cfg) (s : Spec.State) (t : Tbl) (k : Nat) (o : TNode) (h : R (absT t) s.m)
    (hnow : NearOrigin s.now) (hx : hasExpired o s.now = false) (hok : NodeOk k o) (hr : ReadOk c) :
    R (absT (store t k (calcExpiresAtAfterRead (cfgOf c) o s.now))) (Spec.touch c s k (absN o)).m := by
  have := hR.store h k (calcExpiresAtAfterRead (cfgOf c) o s.now)
  rw [read_refines c k o s.now hnow hok.1 (hasExpired_false.mp hx) hok.2.1 hr] at this
  exact this

theorem getIfPresent_sim {R} (hR : MapRel R) (c : Cfg) (s : Spec.State) (t : Tbl) (k : Nat) (h : R (absT t) s.m)
    (hnow : NearOrigin s.now) (hwf : ∀ o, lookup t k = some o → NodeOk k o) (hr : ReadOk c) :
    R (absT (getIfPresent (cfgOf c) t k s.now).1) (Spec.getIfPresent c s k).1.m ∧
    (getIfPresent (cfgOf c) t k s.now).2 = (Spec.getIfPresent c s k).2 := by
  cases Slot.of_mapEq (hR.find h) k with
  | absent hl hp hv => simp only [getIfPresent, Spec.getIfPresent_none hv, hl]; exact ⟨h, trivial⟩
  | expired o hl hx hp hv => simp only [getIfPresent, Spec.getIfPresent_none hv, hl, hx, ↓reduceIte]; exact ⟨h, trivial⟩
  | visible o hl hx hp hv =>
    simp only [getIfPresent, Spec.getIfPresent_some hv, hl, hx]
    exact ⟨touch_sim hR c (Spec.hit s) t k o h hnow hx (hwf o hl) hr, rfl⟩

/-- **GetIfPresent** (table and result; the hit/miss counters are C20's) -/
theorem getIfPresent_refines (c : Cfg) (s : Spec.State) (t : Tbl) (k : Nat) (hs : s.m = absT t)
    (hnow : -4611686018427387904 < s.now ∧ s.now < 4611686018427387904)
    (hwf : ∀ o, lookup t k = some o → NodeOk k o) (hr : ReadOk c) :
    absT (getIfPresent (cfgOf c) t k s.now).1 = (Spec.getIfPresent c s k).1.m ∧
    (getIfPresent (cfgOf c) t k s.now).2 = (Spec.getIfPresent c s k).2 :=
  getIfPresent_sim MapRel.eq c s t k hs.symm hnow hwf hr

theorem setIfAbsent_sim {R} (hR : MapRel R) (c : Cfg) (s : Spec.State) (t : Tbl) (k v : Nat) (h : R (absT t) s.m)
    (hnow : NearOrigin s.now)
    (hwf : ∀ o, lookup t k = some o → NodeOk k o) (hk1 : KindOk c.expiry) (hk2 : KindOk c.refresh) (hr : ReadOk c) :
    R (absT (Impl.Table.set (cfgOf c) t k v true s.now).1) (Spec.setIfAbsent c s k v).1.m ∧
    (Impl.Table.set (cfgOf c) t k v true s.now).2.1 = (Spec.setIfAbsent c s k v).2.1 ∧
    (Impl.Table.set (cfgOf c) t k v true s.now).2.2 = (Spec.setIfAbsent c s k v).2.2 := by
  have hw := write_sim hR c (s.clearInflight k) t k v false h hnow hwf hk1 hk2
  cases Slot.of_mapEq (hR.find h) k with
  | absent hl hp hv => rw [hl] at hw; simp [Impl.Table.set, Spec.setIfAbsent, hl, hv]; exact ⟨hw.1, hw.2⟩
  | expired o hl hx hp hv => rw [hl] at hw; simp [Impl.Table.set, Spec.setIfAbsent, hl, hx, hv]; exact ⟨hw.1, hw.2⟩
  | visible o hl hx hp hv =>
    simp [Impl.Table.set, Spec.setIfAbsent, hl, hx, hv]
    exact ⟨touch_sim hR c s t k o h hnow hx (hwf o hl) hr, rfl⟩

/-- **SetIfAbsent**: a visible entry is only read (its deadline may move), otherwise the write rule applies -/
theorem setIfAbsent_refines (c : Cfg) (s : Spec.State) (t : Tbl) (k v : Nat) (hs : s.m = absT t)
    (hnow : -4611686018427387904 < s.now ∧ s.now < 4611686018427387904)
    (hwf : ∀ o, lookup t k = some o → NodeOk k o) (hk1 : KindOk c.expiry) (hk2 : KindOk c.refresh) (hr : ReadOk c) :
    absT (Impl.Table.set (cfgOf c) t k v true s.now).1 = (Spec.setIfAbsent c s k v).1.m ∧
    (Impl.Table.set (cfgOf c) t k v true s.now).2.1 = (Spec.setIfAbsent c s k v).2.1 ∧
    (Impl.Table.set (cfgOf c) t k v true s.now).2.2 = (Spec.setIfAbsent c s k v).2.2 :=
  setIfAbsent_sim MapRel.eq c s t k v hs.symm hnow hwf hk1 hk2 hr

/-! ### Compute -/

theorem computeStep_sim {R} (hR : MapRel R) (c : Cfg) (s : Spec.State) (t : Tbl) (k : Nat) (act : Spec.Act)
    (h : R (absT t) s.m) (hnow : NearOrigin s.now)
    (hwf : ∀ o, lookup t k = some o → NodeOk k o) (hk1 : KindOk c.expiry) (hk2 : KindOk c.refresh) :
    R (absT (computeStep (cfgOf c) t k act s.now).1) (Spec.computeStep c s k act).1.m ∧
    (computeStep (cfgOf c) t k act s.now).2.1 = (Spec.computeStep c s k act).2.1 ∧
    (computeStep (cfgOf c) t k act s.now).2.2 = (Spec.computeStep c s k act).2.2 := by
  have hrm := remove_sim hR (s := s.clearInflight k) h k (fun o hl => (hwf o hl).1) .invalidation
  cases act with
  | panic => exact ⟨h, rfl, rfl⟩
  | bad => exact ⟨h, rfl, rfl⟩
  | write v =>
    have hw := write_sim hR c (s.clearInflight k) t k v false h hnow hwf hk1 hk2
    exact ⟨hw.1, rfl, hw.2⟩
  | invalidate =>
    unfold computeStep
    cases hl : lookup t k <;> rw [hl] at hrm <;> exact ⟨hrm.1, rfl, hrm.2⟩
  | cancel =>
    cases Slot.of_mapEq (hR.find h) k with
    | absent hl hp hv => simp only [computeStep, Spec.computeStep, hl, hv, hp]; exact ⟨h, trivial, trivial⟩
    | expired o hl hx hp hv =>
      rw [hl] at hrm; simp only [computeStep, Spec.computeStep, hl, hx, hv, hp, ↓reduceIte]; exact ⟨hrm.1, trivial, hrm.2⟩
    | visible o hl hx hp hv => simp only [computeStep, Spec.computeStep, hl, hx, hv, Bool.false_eq_true, ↓reduceIte]; exact ⟨h, rfl, trivial⟩

/-- **Compute** (its critical section): WriteOp, InvalidateOp, CancelOp, and a panicking or invalid answer -/
theorem computeStep_refines (c : Cfg) (s : Spec.State) (t : Tbl) (k : Nat) (act : Spec.Act) (hs : s.m = absT t)
    (hnow : -4611686018427387904 < s.now ∧ s.now < 4611686018427387904)
    (hwf : ∀ o, lookup t k = some o → NodeOk k o) (hk1 : KindOk c.expiry) (hk2 : KindOk c.refresh) :
    absT (computeStep (cfgOf c) t k act s.now).1 = (Spec.computeStep c s k act).1.m ∧
    (computeStep (cfgOf c) t k act s.now).2.1 = (Spec.computeStep c s k act).2.1 ∧
    (computeStep (cfgOf c) t k act s.now).2.2 = (Spec.computeStep c s k act).2.2 :=
  computeStep_sim MapRel.eq c s t k act hs.symm hnow hwf hk1 hk2

/-! ### deadlines set in place

  SetExpiresAfter, SetRefreshableAfter and a failed reload move one deadline of the mapped node.  The code skips the store when
  the duration asked for is the current one; the spec re-inserts the entry regardless, so the two agree as maps only. -/

theorem mapEq_store_if {t : Tbl} {m : List (Nat × Entry)} (h : MapEq (absT t) m) {k : Nat} {x : TNode} (hl : lookup t k = some x)
    {b : Bool} {n : TNode} {e : Entry} (hn : b = true → absN n = e) (hx : b = false → absN x = e) :
    MapEq (absT (if b then store t k n else t)) (Spec.put m k e) := by
  cases b with
  | true => rw [← hn rfl]; exact MapRel.mapEq.store h k n
  | false => rw [← hx rfl]; exact h.trans (mapEq_put_same m k _ (by rw [← h k, find_absT, hl]; rfl))

theorem setRef_mapEq {t : Tbl} {m : List (Nat × Entry)} (h : MapEq (absT t) m) {k : Nat} {x : TNode} (hl : lookup t k = some x)
    (hok : NodeOk k x) {now d : Int} (hnow : NearOrigin now) (hd : 0 < d) :
    MapEq (absT (if durationTo x.ref now != d then store t k { x with ref := deadlineAfter now d } else t))
      (Spec.put m k { absN x with ref := satAdd now d }) := by
  refine mapEq_store_if h hl (fun _ => by rw [deadlineAfter_eq_satAdd]; rfl) (fun hb => ?_)
  rw [← keep_or_set x.ref now d hnow hok.2.2.2 hd hok.2.2.1 (bne_eq_false_iff_eq.mp hb)]
  rfl

/-- the setters' guard, as the code and as the spec write it -/
theorem setter_guard_eq (w : Bool) (d : Int) : (w && decide (d > 0)) = !(!w || decide (d ≤ 0)) := by
  cases w <;> simp [← Int.not_le]

theorem setExpiresAfter_sim (c : Cfg) (s : Spec.State) (t : Tbl) (k : Nat) (d : Int) (h : MapEq (absT t) s.m)
    (hnow : NearOrigin s.now) (hwf : ∀ o, lookup t k = some o → NodeOk k o) :
    MapEq (absT (setExpiresAfter (cfgOf c) t k d s.now)) (Spec.setExpiresAfter c s k d).m := by
  unfold setExpiresAfter Spec.setExpiresAfter
  rw [setter_guard_eq, show (cfgOf c).withExp = c.withExpiry from rfl]
  cases hg : (!c.withExpiry || decide (d ≤ 0))
  · have hd : 0 < d := by simp only [Bool.or_eq_false_iff, decide_eq_false_iff_not] at hg; omega
    cases Slot.of_mapEq h k with
    | absent hl hp hv => simp only [hl, hv]; exact h
    | expired o hl hx hp hv => simp only [hl, hx, hv, ↓reduceIte]; exact h
    | visible o hl hx hp hv =>
      simp only [hl, hx, hv, Bool.false_eq_true, ↓reduceIte, Bool.not_false]
      refine mapEq_store_if h hl (fun _ => by rw [deadlineAfter_eq_satAdd]; rfl) (fun hb => ?_)
      rw [← keep_or_set o.exp s.now d hnow (hwf o hl).2.1 hd (hnow.le_of_lt (hasExpired_false.mp hx))
        (bne_eq_false_iff_eq.mp hb).symm]
      rfl
  · exact h

theorem setExpiresAfter_refines (c : Cfg) (s : Spec.State) (t : Tbl) (k : Nat) (d : Int) (hs : s.m = absT t)
    (hnow : -4611686018427387904 < s.now ∧ s.now < 4611686018427387904)
    (hwf : ∀ o, lookup t k = some o → NodeOk k o) :
    MapEq (absT (setExpiresAfter (cfgOf c) t k d s.now)) (Spec.setExpiresAfter c s k d).m :=
  setExpiresAfter_sim c s t k d (MapEq.of_eq hs.symm) hnow hwf

/-- **SetRefreshableAfter** (the entry physically present: an expired-but-unswept entry is updated too, on both sides) -/
theorem setRefreshableAfter_sim (c : Cfg) (s : Spec.State) (t : Tbl) (k : Nat) (d : Int) (h : MapEq (absT t) s.m)
    (hnow : NearOrigin s.now) (hwf : ∀ o, lookup t k = some o → NodeOk k o) :
    MapEq (absT (setRefreshableAfter (cfgOf c) t k d s.now)) (Spec.setRefreshableAfter c s k d).m := by
  unfold setRefreshableAfter Spec.setRefreshableAfter
  rw [setter_guard_eq, phys_map h k, show (cfgOf c).withRef = c.withRefresh from rfl]
  cases hg : (!c.withRefresh || decide (d ≤ 0))
  · have hd : 0 < d := by simp only [Bool.or_eq_false_iff, decide_eq_false_iff_not] at hg; omega
    cases hl : lookup t k with
    | none => exact h
    | some o => simp only [gt_iff_lt, hd, decide_true, Bool.true_and]; exact setRef_mapEq h hl (hwf o hl) hnow hd
  · exact h

theorem setRefreshableAfter_refines (c : Cfg) (s : Spec.State) (t : Tbl) (k : Nat) (d : Int) (hs : s.m = absT t)
    (hnow : -4611686018427387904 < s.now ∧ s.now < 4611686018427387904)
    (hwf : ∀ o, lookup t k = some o → NodeOk k o) :
    MapEq (absT (setRefreshableAfter (cfgOf c) t k d s.now)) (Spec.setRefreshableAfter c s k d).m :=
  setRefreshableAfter_sim c s t k d (MapEq.of_eq hs.symm) hnow hwf

/-! ### completion of a load (afterDeleteCall) -/

/-- the failed-refresh branch of finishCall is calcRefreshableAt on the node itself -/
theorem failure_is_calcRefreshableAt (c : TCfg) (x : TNode) (now : Int) :
    calcRefreshableAt c x (some x) .failure now =
      (if c.withRef && (decide (c.refFail x.key x.val (durationTo x.ref now) > 0) && durationTo x.ref now != c.refFail x.key x.val (durationTo x.ref now))
       then { x with ref := deadlineAfter now (c.refFail x.key x.val (durationTo x.ref now)) } else x) := by
  unfold calcRefreshableAt
  cases c.withRef <;> simp

theorem finishCall_err (cfg : TCfg) (t : Tbl) (k : Nat) (correct r : Bool) (now : Int) :
    (finishCall cfg t k correct r .err now).2 = [] ∧
    ((finishCall cfg t k correct r .err now).1 = t ∨
     ∃ x d, lookup t k = some x ∧ r = true ∧ 0 < d ∧
       (finishCall cfg t k correct r .err now).1 = store t k { x with ref := deadlineAfter now d }) := by
  unfold finishCall
  cases hl : lookup t k with
  | none => exact ⟨rfl, .inl rfl⟩
  | some x =>
    simp only
    split
    · rename_i hr
      split
      · rename_i hd
        simp only [Bool.and_eq_true, decide_eq_true_eq] at hr hd
        exact ⟨rfl, .inr ⟨x, _, rfl, hr.1, hd.1, rfl⟩⟩
      · exact ⟨rfl, .inl rfl⟩
    · exact ⟨rfl, .inl rfl⟩

/-- a failed load changes no value and reports nothing; a failed reload may move the refresh deadline, and only by a per-key
    RefreshAfterReloadFailure duration: the built-in calculators answer with the current duration, which the code takes as
    "keep" -/
theorem failedLoad_sim (c : Cfg) (s : Spec.State) (t : Tbl) (k : Nat) (correct isRefresh : Bool) (h : MapEq (absT t) s.m)
    (hnow : NearOrigin s.now) (hwf : ∀ o, lookup t k = some o → NodeOk k o) :
    MapEq (absT (finishCall (cfgOf c) t k correct isRefresh .err s.now).1)
      (if isRefresh then Spec.applyReloadFailure c s k else s).m ∧
    (finishCall (cfgOf c) t k correct isRefresh .err s.now).2 = [] := by
  refine ⟨?_, (finishCall_err (cfgOf c) t k correct isRefresh s.now).1⟩
  unfold finishCall
  cases isRefresh with
  | false => cases lookup t k <;> exact h
  | true =>
    unfold Spec.applyReloadFailure Spec.refFailDur
    rw [phys_map h k]
    cases hl : lookup t k with
    | none => exact h
    | some x =>
      obtain rfl := (hwf x hl).1
      cases hcr : c.refresh with
      | custom =>
        have hwr : c.withRefresh = true := by simp [Cfg.withRefresh, hcr]
        simp only [cfgOf, hwr, hcr, Bool.true_and, Option.map_some, ↓reduceIte]
        by_cases hd : 0 < c.refFail.get x.key
        · simp only [gt_iff_lt, hd, decide_true, Bool.true_and, ↓reduceIte, apply_ite Prod.fst]
          exact setRef_mapEq h hl (hwf x hl) hnow hd
        · simp only [gt_iff_lt, hd, decide_false, Bool.false_and, Bool.false_eq_true, ↓reduceIte]; exact h
      | _ => simp [cfgOf, Cfg.withRefresh, hcr]; exact h

/-- **completion of a load**: installation only by a correct call and with the reload calculators for a refresh, removal
    on not-found, the refresh deadline of a failed refresh — table (as a map) and events are the spec's `finishCall`; the code
    does not distinguish a loader's error from its panic -/
theorem finishCall_sim (c : Cfg) (s : Spec.State) (t : Tbl) (k cid : Nat) (isRefresh fake : Bool) (o : Spec.LoadOutcome)
    (o' : LoadOut) (ho : o' = match o with | .ok v => .ok v | .notFound _ => .notFound | _ => .err)
    (h : MapEq (absT t) s.m) (hnow : NearOrigin s.now)
    (hwf : ∀ o, lookup t k = some o → NodeOk k o) (hk1 : KindOk c.expiry) (hk2 : KindOk c.refresh) :
    MapEq (absT (finishCall (cfgOf c) t k (fake || s.inflightOf k == some cid) isRefresh o' s.now).1)
      (Spec.finishCall c s k cid isRefresh fake o).1.m ∧
    (finishCall (cfgOf c) t k (fake || s.inflightOf k == some cid) isRefresh o' s.now).2
      = (Spec.finishCall c s k cid isRefresh fake o).2 := by
  subst ho
  unfold Spec.finishCall
  dsimp only
  generalize (fake || s.inflightOf k == some cid) = correct
  -- the state the spec continues with differs from s only in the in-flight table
  generalize hs2 : (if s.inflightOf k == some cid then s.clearInflight k else s) = s2
  have h2 : s2.m = s.m ∧ s2.now = s.now := by rw [← hs2]; split <;> exact ⟨rfl, rfl⟩
  rw [← h2.1] at h
  rw [← h2.2] at hnow ⊢
  cases o with
  | ok v =>
    cases correct with
    | false => exact ⟨h, rfl⟩
    | true => exact write_sim MapRel.mapEq c s2 t k v isRefresh h hnow hwf hk1 hk2
  | notFound v =>
    cases correct with
    | false => exact ⟨h, rfl⟩
    | true =>
      have hr := remove_sim MapRel.mapEq h k (fun o hl => (hwf o hl).1) .invalidation
      unfold finishCall
      cases hl : lookup t k <;> rw [hl] at hr <;> exact hr
  | err _ | panic => exact failedLoad_sim c s2 t k correct isRefresh h hnow hwf

theorem finishCall_refines (c : Cfg) (s : Spec.State) (t : Tbl) (k cid : Nat) (isRefresh fake : Bool) (hs : s.m = absT t)
    (hnow : -4611686018427387904 < s.now ∧ s.now < 4611686018427387904)
    (hwf : ∀ o, lookup t k = some o → NodeOk k o) (hk1 : KindOk c.expiry) (hk2 : KindOk c.refresh) :
    let correct := fake || s.inflightOf k == some cid
    (∀ v, MapEq (absT (finishCall (cfgOf c) t k correct isRefresh (.ok v) s.now).1) (Spec.finishCall c s k cid isRefresh fake (.ok v)).1.m ∧
          (finishCall (cfgOf c) t k correct isRefresh (.ok v) s.now).2 = (Spec.finishCall c s k cid isRefresh fake (.ok v)).2) ∧
    (∀ v, MapEq (absT (finishCall (cfgOf c) t k correct isRefresh .notFound s.now).1) (Spec.finishCall c s k cid isRefresh fake (.notFound v)).1.m ∧
          (finishCall (cfgOf c) t k correct isRefresh .notFound s.now).2 = (Spec.finishCall c s k cid isRefresh fake (.notFound v)).2) ∧
    (∀ v, MapEq (absT (finishCall (cfgOf c) t k correct isRefresh .err s.now).1) (Spec.finishCall c s k cid isRefresh fake (.err v)).1.m ∧
          (finishCall (cfgOf c) t k correct isRefresh .err s.now).2 = (Spec.finishCall c s k cid isRefresh fake (.err v)).2) :=
  have h := fun o => finishCall_sim c s t k cid isRefresh fake o _ rfl (MapEq.of_eq hs.symm) hnow hwf hk1 hk2
  ⟨fun v => h (.ok v), fun v => h (.notFound v), fun v => h (.err v)⟩

/-! ### statistics of a lookup (C20) -/

theorem lookupIsHit_live {s : Spec.State} {t : Tbl} (h : MapEq (absT t) s.m) (k : Nat) :
    lookupIsHit t k s.now = (s.live k).isSome := by
  cases Slot.of_mapEq h k with
  | absent hl hp hv => simp [lookupIsHit, hl, hv]
  | expired o hl hx hp hv => simp [lookupIsHit, hl, hx, hv]
  | visible o hl hx hp hv => simp [lookupIsHit, hl, hx, hv]

end OtterVerif.Proofs.TableRefine
