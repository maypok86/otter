/-
  Proofs.TableTrace — from single steps to histories: ANY sequence of Set / SetIfAbsent / Invalidate / GetIfPresent /
  Compute (with any answers of its function) / clock advances, run on Impl.Table from any well-formed table and on the spec
  from a state with that table's map and clock (the empty table and the initial state are one such pair), produces step by
  step the results and atomic deletion events the spec produces, and ends in a table that abstracts to the spec's map.
  The induction carries the well-formedness invariant the single-step theorems need (`AllOk`: every node is stored under
  its own key and its deadlines are int64 values, refresh deadlines not below -2^62); the only hypothesis about the history
  is that the clock stays within ±2^62 ns (±146 years) of the reference point.
-/
import OtterVerif.Proofs.TableRefine
import OtterVerif.Proofs.RunSim

namespace OtterVerif.Proofs.TableTrace
open OtterVerif OtterVerif.Impl.Table OtterVerif.Proofs.TableRefine
open OtterVerif.Spec (Cause Event Out Entry Cfg Kind)

inductive Op where
  | set (k v : Nat) | setIfAbsent (k v : Nat) | invalidate (k : Nat) | get (k : Nat)
  | compute (k : Nat) (act : Spec.Act) | advance (d : Int)
  deriving Repr

structure IState where
  now : Int
  t : Tbl

def istep (c : Cfg) (s : IState) : Op → IState × Out × List Event
  | .set k v => let r := Impl.Table.set (cfgOf c) s.t k v false s.now; ({ s with t := r.1 }, r.2.1, r.2.2)
  | .setIfAbsent k v => let r := Impl.Table.set (cfgOf c) s.t k v true s.now; ({ s with t := r.1 }, r.2.1, r.2.2)
  | .invalidate k => let r := invalidate s.t k s.now; ({ s with t := r.1 }, r.2.1, r.2.2)
  | .get k => let r := getIfPresent (cfgOf c) s.t k s.now; ({ s with t := r.1 }, r.2, [])
  | .compute k act => let r := computeStep (cfgOf c) s.t k act s.now; ({ s with t := r.1 }, r.2.1, r.2.2)
  | .advance d => ({ s with now := s.now + d }, .unit, [])

def sstep (c : Cfg) (s : Spec.State) : Op → Spec.State × Out × List Event
  | .set k v => Spec.set c s k v
  | .setIfAbsent k v => Spec.setIfAbsent c s k v
  | .invalidate k => Spec.invalidate s k
  | .get k => let r := Spec.getIfPresent c s k; (r.1, r.2, [])
  | .compute k act => Spec.computeStep c s k act
  | .advance d => (Spec.advance s d, .unit, [])

def irun (c : Cfg) : IState → List Op → IState × List (Out × List Event)
  | s, [] => (s, [])
  | s, op :: rest => let r := istep c s op; let q := irun c r.1 rest; (q.1, r.2 :: q.2)

def srun (c : Cfg) : Spec.State → List Op → Spec.State × List (Out × List Event)
  | s, [] => (s, [])
  | s, op :: rest => let r := sstep c s op; let q := srun c r.1 rest; (q.1, r.2 :: q.2)

def AllOk (t : Tbl) : Prop := ∀ k o, lookup t k = some o → NodeOk k o

/-- `TableRefine.NearOrigin`, under the name the history theorems state it by: a proof of either is a proof of the other -/
def InRange (now : Int) : Prop := -4611686018427387904 < now ∧ now < 4611686018427387904

theorem allOk_nil : AllOk [] := fun _ _ h => by cases h

theorem allOk_store {t : Tbl} {k : Nat} {n : TNode} (h : AllOk t) (hn : NodeOk k n) : AllOk (store t k n) := by
  intro j o ho
  rw [lookup_store] at ho
  split at ho
  · subst j; cases ho; exact hn
  · exact h j o ho

theorem allOk_unlink {t : Tbl} {k : Nat} (h : AllOk t) : AllOk (unlink t k) := by
  intro j o ho
  rw [lookup_unlink] at ho
  split at ho
  · cases ho
  · exact h j o ho

theorem atomicSet_ok (cfg : TCfg) (k v : Nat) (old : Option TNode) (now : Int) (kd : RefKind) (hn : InRange now)
    (hold : ∀ o, old = some o → NodeOk k o) : NodeOk k (atomicSet cfg k v old now kd).1 := by
  have hnew : NodeOk k (newNode cfg k v (visiblePrev old now)) := by
    unfold newNode NodeOk
    cases hp : visiblePrev old now with
    | none => simp [maxI64]
    | some o =>
      obtain ⟨_, h2, h3, h4⟩ := hold o (visiblePrev_some hp).1
      refine ⟨rfl, ?_, ?_, ?_⟩ <;> simp only <;> split <;> first | assumption | (unfold maxI64; omega)
  rw [atomicSet_fst]
  exact ⟨hnew.1, moved_le hnew.2.1, moved_ge hn hnew.2.2.1, moved_le hnew.2.2.2⟩

theorem read_ok (cfg : TCfg) (k : Nat) (o : TNode) (now : Int) (h : NodeOk k o) : NodeOk k (calcExpiresAtAfterRead cfg o now) := by
  rw [calcRead_eq]
  exact ⟨h.1, moved_le h.2.1, h.2.2⟩

/-- what one step does to the table, which deletion events it reports and how many values it installs (the last index):
    nothing; the mapped node of a key unlinked and reported; atomicSet's node stored, the mapped predecessor reported; the
    mapped node replaced by itself with the deadline a read gives it, or with a deadline set in place.  Well-formedness, one
    node per key and conservation are consequences of this shape alone. -/
inductive Eff (cfg : TCfg) (now : Int) (t : Tbl) : Tbl → List Event → Nat → Prop where
  | same : Eff cfg now t t [] 0
  | delete {k : Nat} {o : TNode} (hl : lookup t k = some o) (ev : Event) : Eff cfg now t (unlink t k) [ev] 0
  | install (k v : Nat) (kd : RefKind) :
      Eff cfg now t (store t k (atomicSet cfg k v (lookup t k) now kd).1) (atomicSet cfg k v (lookup t k) now kd).2 1
  | read {k : Nat} {o : TNode} (hl : lookup t k = some o) : Eff cfg now t (store t k (calcExpiresAtAfterRead cfg o now)) [] 0
  | setExp {k : Nat} {o : TNode} (hl : lookup t k = some o) (d : Int) :
      Eff cfg now t (store t k { o with exp := deadlineAfter now d }) [] 0
  | setRef {k : Nat} {o : TNode} (hl : lookup t k = some o) (d : Int) (hd : 0 < d) :
      Eff cfg now t (store t k { o with ref := deadlineAfter now d }) [] 0

theorem Eff.allOk {cfg : TCfg} {now : Int} {t t' : Tbl} {evs : List Event} {n : Nat} (e : Eff cfg now t t' evs n)
    (h : AllOk t) (hn : InRange now) : AllOk t' := by
  cases e with
  | same => exact h
  | delete hl ev => exact allOk_unlink h
  | install k v kd => exact allOk_store h (atomicSet_ok cfg k v _ now kd hn (h k))
  | read hl => exact allOk_store h (read_ok cfg _ _ now (h _ _ hl))
  | setExp hl d => obtain ⟨h1, _, h3, h4⟩ := h _ _ hl; exact allOk_store h ⟨h1, deadlineAfter_le _ _, h3, h4⟩
  | setRef hl d hd =>
    obtain ⟨h1, h2, _, _⟩ := h _ _ hl
    exact allOk_store h ⟨h1, h2, deadlineAfter_ge _ _ hn hd, deadlineAfter_le _ _⟩

/-- what an operation installs is read off the operation and its own answer; the `match` is `TableConserve.installs` at
    `.base op` (`installs_base`), which is defined over the larger `XOp` of TableEvict -/
theorem istep_eff (c : Cfg) (s : IState) (op : Op) :
    Eff (cfgOf c) s.now s.t (istep c s op).1.t (istep c s op).2.2
      (match op, (istep c s op).2.1 with
       | .set _ _, _ => 1 | .setIfAbsent _ _, .valOk _ true => 1 | .compute _ (.write _), _ => 1 | _, _ => 0) := by
  cases op with
  | set k v =>
    have := Eff.install (cfg := cfgOf c) (now := s.now) (t := s.t) k v .plain
    cases hl : lookup s.t k with
    | none => simpa [istep, Impl.Table.set, hl] using this
    | some o => cases hx : hasExpired o s.now <;> simpa [istep, Impl.Table.set, hl, hx] using this
  | setIfAbsent k v =>
    have := Eff.install (cfg := cfgOf c) (now := s.now) (t := s.t) k v .plain
    cases hl : lookup s.t k with
    | none => simpa [istep, Impl.Table.set, hl] using this
    | some o =>
      cases hx : hasExpired o s.now
      · simpa [istep, Impl.Table.set, hl, hx] using Eff.read (cfg := cfgOf c) (now := s.now) hl
      · simpa [istep, Impl.Table.set, hl, hx] using this
  | invalidate k =>
    cases hl : lookup s.t k with
    | none => simpa [istep, invalidate, hl] using Eff.same
    | some o => simpa [istep, invalidate, hl] using Eff.delete hl _
  | get k =>
    cases hl : lookup s.t k with
    | none => simpa [istep, getIfPresent, hl] using Eff.same
    | some o =>
      cases hx : hasExpired o s.now
      · simpa [istep, getIfPresent, hl, hx] using Eff.read (cfg := cfgOf c) (now := s.now) hl
      · simpa [istep, getIfPresent, hl, hx] using Eff.same
  | compute k act =>
    cases act with
    | panic => exact Eff.same
    | bad => exact Eff.same
    | write v => exact Eff.install k v .plain
    | invalidate =>
      cases hl : lookup s.t k with
      | none => simpa [istep, computeStep, hl] using Eff.same
      | some o => simpa [istep, computeStep, hl] using Eff.delete hl _
    | cancel =>
      cases hl : lookup s.t k with
      | none => simpa [istep, computeStep, hl] using Eff.same
      | some o =>
        cases hx : hasExpired o s.now
        · simpa [istep, computeStep, hl, hx] using Eff.same
        · simpa [istep, computeStep, hl, hx] using Eff.delete hl _
  | advance d => exact Eff.same

theorem istep_allOk (c : Cfg) (s : IState) (op : Op) (h : AllOk s.t) (hn : InRange s.now) : AllOk (istep c s op).1.t :=
  (istep_eff c s op).allOk h hn

theorem sstep_now (c : Cfg) (s : Spec.State) (op : Op) :
    (sstep c s op).1.now = (match op with | .advance d => s.now + d | _ => s.now) := by
  cases op with
  | set k v => rfl
  | setIfAbsent k v => show (Spec.setIfAbsent c s k v).1.now = _; unfold Spec.setIfAbsent; split <;> rfl
  | invalidate k => show (Spec.remove (s.clearInflight k) k .invalidation).1.now = _; unfold Spec.remove; split <;> rfl
  | get k =>
    show (Spec.getIfPresent c s k).1.now = _
    cases hl : s.live k with
    | none => rw [Spec.getIfPresent_none hl]; rfl
    | some e => rw [Spec.getIfPresent_some hl]; rfl
  | compute k act =>
    show (Spec.computeStep c s k act).1.now = _
    unfold Spec.computeStep Spec.remove
    cases act <;> simp only <;> (repeat' split) <;> rfl
  | advance d => rfl

theorem step_sim {R} (hR : MapRel R) (c : Cfg) (is : IState) (ss : Spec.State) (op : Op) (hm : R (absT is.t) ss.m)
    (hnow : ss.now = is.now) (hok : AllOk is.t) (hn : InRange is.now) (hk1 : KindOk c.expiry) (hk2 : KindOk c.refresh)
    (hr : ReadOk c) :
    R (absT (istep c is op).1.t) (sstep c ss op).1.m ∧ (sstep c ss op).1.now = (istep c is op).1.now ∧
    (istep c is op).2 = (sstep c ss op).2 := by
  obtain ⟨now, t⟩ := is
  obtain rfl : ss.now = now := hnow
  cases op with
  | set k v =>
    have := set_sim hR c ss t k v hm hn (hok k) hk1 hk2
    exact ⟨this.1, rfl, Prod.ext this.2.1 this.2.2⟩
  | setIfAbsent k v =>
    have := setIfAbsent_sim hR c ss t k v hm hn (hok k) hk1 hk2 hr
    exact ⟨this.1, sstep_now c ss _, Prod.ext this.2.1 this.2.2⟩
  | invalidate k =>
    have := invalidate_sim hR ss t k hm (fun o ho => (hok k o ho).1)
    exact ⟨this.1, sstep_now c ss _, Prod.ext this.2.1 this.2.2⟩
  | get k =>
    have := getIfPresent_sim hR c ss t k hm hn (hok k) hr
    exact ⟨this.1, sstep_now c ss _, Prod.ext this.2 rfl⟩
  | compute k act =>
    have := computeStep_sim hR c ss t k act hm hn (hok k) hk1 hk2
    exact ⟨this.1, sstep_now c ss _, Prod.ext this.2.1 this.2.2⟩
  | advance d => exact ⟨hm, rfl, rfl⟩

theorem isRun_irun (c : Cfg) : RunSim.IsRun (istep c) (irun c) := ⟨fun _ => rfl, fun _ _ _ => rfl⟩

theorem isRun_srun (c : Cfg) : RunSim.IsRunOpt (fun s op => some (sstep c s op)) (fun s ops => some (srun c s ops)) :=
  ⟨fun _ => rfl, fun _ _ _ => rfl⟩

/-- the clock stays in range along the history -/
def ClockOk (now : Int) : List Op → Prop
  | [] => InRange now
  | .advance d :: rest => InRange now ∧ ClockOk (now + d) rest
  | _ :: rest => InRange now ∧ ClockOk now rest

theorem clockOk_cons (c : Cfg) (is : IState) (op : Op) (rest : List Op) (h : ClockOk is.now (op :: rest)) :
    InRange is.now ∧ ClockOk (istep c is op).1.now rest := by
  cases op <;> exact h

/-- **every history**: Impl.Table and the spec, started in related states, return the same results and report the same
    atomic deletion events at every step, and end in related states -/
theorem history_sim (c : Cfg) (hk1 : KindOk c.expiry) (hk2 : KindOk c.refresh) (hr : ReadOk c) (ops : List Op) :
    ∀ (is : IState) (ss : Spec.State), ss.m = absT is.t → ss.now = is.now → AllOk is.t → ClockOk is.now ops →
      (irun c is ops).2 = (srun c ss ops).2 ∧ (srun c ss ops).1.m = absT (irun c is ops).1.t := by
  intro is ss hm hnow hok hclk
  have := RunSim.run_sim (isRun_irun c) (isRun_srun c)
    (fun ops is ss => ss.m = absT is.t ∧ ss.now = is.now ∧ AllOk is.t ∧ ClockOk is.now ops)
    (fun op rest is ss r ⟨hm, hnow, hok, hclk⟩ hr' => by
      obtain rfl := Option.some.inj hr'
      have ⟨hn, hclk'⟩ := clockOk_cons c is op rest hclk
      have hs := step_sim MapRel.eq c is ss op hm.symm hnow hok hn hk1 hk2 hr
      exact ⟨hs.2.2, hs.1.symm, hs.2.1, istep_allOk c is op hok hn, hclk'⟩)
    ops is ss ⟨hm, hnow, hok, hclk⟩ _ rfl
  exact ⟨this.1, this.2.1⟩

end OtterVerif.Proofs.TableTrace
