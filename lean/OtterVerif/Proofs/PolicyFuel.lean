/-
  Proofs.PolicyFuel — the loop bound of the model's evictFromMain (4n+16 iterations) is never reached: a potential that
  every iteration of the loop decreases.  With it the hypothesis `evictNodesRanOut p = false` of `bound_evictNodes` holds in
  every reachable state (`evictNodes_le_maximum`).
-/
import OtterVerif.Proofs.PolicyBound

namespace OtterVerif.Impl.Policy

/-! ### lists: how much of a list lies from a pointer on -/

/-- number of elements of l from the pointer on (the pointer's own element included; none: the pointer ran off the end) -/
def remaining (l : List Nat) (v : Option Nat) : Nat :=
  match v with
  | none => 0
  | some x => (l.dropWhile (· != x)).length

section
variable {l pre post : List Nat} {v : Option Nat} {x : Nat}

theorem Cut.remaining (h : Cut l v pre post) : remaining l v = post.length := by
  cases v with
  | none => rw [List.head?_eq_none_iff.mp h.head]; rfl
  | some x =>
    obtain ⟨rest, rfl, e, hp, _⟩ := h.split
    rw [e, Policy.remaining, dropWhile_split rest hp]

theorem Cut.length (h : Cut l (some x) pre post) : post.length = post.tail.length + 1 := by
  obtain ⟨rest, rfl, _⟩ := h.split
  rfl

/-- a cut of a segment, read in the whole list -/
theorem Cut.seg {a b : List Nat} (h : Cut l (some x) pre post) (hn : (a ++ (l ++ b)).Nodup) :
    Cut (a ++ (l ++ b)) (some x) (a ++ pre) (post ++ b) := by
  obtain ⟨rest, rfl, e, _⟩ := h.split
  exact ⟨hn, by rw [e]; simp, rfl⟩

end

theorem remaining_le (l : List Nat) (v : Option Nat) : remaining l v ≤ l.length := by
  cases v with
  | none => exact Nat.zero_le _
  | some x => exact (List.dropWhile_sublist _).length_le

/-- a filter that keeps the element at which `dropWhile` stops commutes with it -/
theorem dropWhile_filter (l : List Nat) (p q : Nat → Bool) (h : ∀ a, q a = false → p a = true) :
    (l.filter p).dropWhile q = (l.dropWhile q).filter p := by
  induction l with
  | nil => rfl
  | cons a as ih =>
    cases hq : q a
    · simp [hq, h a hq]
    · cases hp : p a <;> simp [hq, hp, ih]

/-- for a pointer that need not point into the list (the candidate pointer), so not through a cut -/
theorem remaining_filter_other (l : List Nat) (v : Option Nat) (c : Nat) (hne : v ≠ some c) :
    remaining (l.filter (· != c)) v ≤ remaining l v := by
  cases v with
  | none => exact Nat.le_refl _
  | some x =>
    have hxc : x ≠ c := fun e => hne (by rw [e])
    unfold remaining
    simp only
    rw [dropWhile_filter l _ _ (fun a ha => by rw [show a = x by simpa using ha]; simpa using hxc)]
    exact (List.filter_sublist).length_le

/-! ### the potential -/

/-- what lies ahead of the victim pointer after its current queue: the queues still to come and the switches into them -/
def queuesAhead (p : Policy) (vq : Nat) : Nat :=
  if vq = 1 then (dq p 2).length + (dq p 0).length + 2 else if vq = 2 then (dq p 0).length + 1 else 0

/-- what the victim pointer has still to walk: the rest of its queue and what lies ahead of that -/
def victimRest (p : Policy) (vq : Nat) (v : Option Nat) : Nat := remaining (dq p vq) v + queuesAhead p vq

/-- what the candidate pointer has still to walk: the pointer itself and what follows it in the list of all linked nodes
    (the pointer moves within one deque, which is a segment of that list) -/
def candRest (p : Policy) (c : Option Nat) : Nat :=
  match c with
  | none => 0
  | some x => 1 + remaining (all p) (some x)

/-- while the candidate pointer may still be re-seated to the head of the window (`cq = 1`), the walk that the re-seat opens
    is held in reserve -/
def refillCredit (p : Policy) (cq : Nat) : Nat := if cq = 1 then (all p).length + 2 else 0

def potential (s : Loop) : Nat := victimRest s.p s.vq s.v + candRest s.p s.c + refillCredit s.p s.cq

/-! ### candidate pointer -/

theorem candRest_next (p : Policy) (x : Nat) (hn : (all p).Nodup) : candRest p (next p x) + 1 ≤ candRest p (some x) := by
  cases h : linkedIn p x with
  | none =>
    have : next p x = none := by unfold next; rw [h]
    rw [this]; unfold candRest; simp only; omega
  | some q =>
    -- the cut at x in its deque and, if x has a successor, the cut there, both read in the list of all linked nodes
    obtain ⟨a, b, e, _⟩ := all_setDq p q
    obtain ⟨pre, post, c⟩ := Cut.of_mem (nodup_dq hn q) (mem_of_linkedIn h)
    rw [e] at hn
    rw [next_of_linkedIn h]
    show _ ≤ 1 + remaining (all p) (some x)
    rw [e, (c.seg hn).remaining, List.length_append, c.length]
    have k := c.skip
    cases hs : succOf (dq p q) x with
    | none => show 0 + 1 ≤ _; omega
    | some y =>
      rw [hs] at k
      show 1 + remaining (all p) (some y) + 1 ≤ _
      rw [e, (k.seg hn).remaining, List.length_append]
      omega

theorem candRest_evict_other (p : Policy) (c : Option Nat) (z : Nat) (hn : (all p).Nodup) (hne : c ≠ some z) :
    candRest (evictNode p z) c ≤ candRest p c := by
  cases c with
  | none => exact Nat.le_refl _
  | some x =>
    unfold candRest
    simp only
    rw [(kill_evictNode p z hn).1]
    have := remaining_filter_other (all p) (some x) z hne
    omega

theorem next_ne (p : Policy) (x : Nat) (hn : (all p).Nodup) : next p x ≠ some x := by
  intro h
  have := candRest_next p x hn
  rw [h] at this
  omega

theorem candRest_evict_next (p : Policy) (x : Nat) (hn : (all p).Nodup) :
    candRest (evictNode p x) (next p x) + 1 ≤ candRest p (some x) :=
  Nat.le_trans (Nat.add_le_add_right (candRest_evict_other p (next p x) x hn (next_ne p x hn)) 1) (candRest_next p x hn)

theorem candRest_le (p : Policy) (c : Option Nat) : candRest p c ≤ (all p).length + 1 := by
  cases c with
  | none => exact Nat.zero_le _
  | some x => have := remaining_le (all p) (some x); unfold candRest; simp only; omega

theorem refillCredit_evict (p : Policy) (cq z : Nat) (hn : (all p).Nodup) :
    refillCredit (evictNode p z) cq ≤ refillCredit p cq := by
  unfold refillCredit
  rw [(kill_evictNode p z hn).1]
  have := List.length_filter_le (· != z) (all p)
  split <;> omega

/-! ### victim pointer -/

theorem queuesAhead_evict (p : Policy) (vq c : Nat) (hn : (all p).Nodup) :
    queuesAhead (evictNode p c) vq ≤ queuesAhead p vq := by
  have hq := (dqs_evictNode c hn).dq
  have h2 := List.length_filter_le (· != c) (dq p 2)
  have h0 := List.length_filter_le (· != c) (dq p 0)
  unfold queuesAhead
  rw [hq, hq]
  split
  · omega
  · split <;> omega

theorem victimRest_skip {p : Policy} {vq x : Nat} (h : VictimInv p vq (some x)) :
    victimRest p vq (next p x) + 1 ≤ victimRest p vq (some x) := by
  obtain ⟨pre, post, c, _⟩ := h.here
  unfold victimRest
  rw [h.next_eq, c.skip.remaining, c.remaining, c.length]
  omega

theorem victimRest_evict_self {p : Policy} {vq x : Nat} (h : VictimInv p vq (some x)) :
    victimRest (evictNode p x) vq (next p x) + 1 ≤ victimRest p vq (some x) := by
  obtain ⟨pre, post, c, _⟩ := h.here
  have := queuesAhead_evict p vq x h.nodup
  unfold victimRest
  rw [(dqs_evictNode x h.nodup).dq, h.next_eq, c.evict_self.remaining, c.remaining, c.length]
  omega

theorem victimRest_evict_other (p : Policy) (vq c : Nat) (v : Option Nat) (hn : (all p).Nodup) (hne : v ≠ some c) :
    victimRest (evictNode p c) vq v ≤ victimRest p vq v := by
  have := remaining_filter_other (dq p vq) v c hne
  have := queuesAhead_evict p vq c hn
  unfold victimRest
  rw [(dqs_evictNode c hn).dq]
  omega

theorem victimRest_toProt (p : Policy) : victimRest p 2 p.prot.head? + 1 ≤ victimRest p 1 none := by
  have := remaining_le p.prot p.prot.head?
  show remaining p.prot p.prot.head? + (p.window.length + 1) + 1 ≤ 0 + (p.prot.length + p.window.length + 2)
  omega

theorem victimRest_toWindow (p : Policy) : victimRest p 0 p.window.head? + 1 ≤ victimRest p 2 none := by
  have := remaining_le p.window p.window.head?
  show remaining p.window p.window.head? + 0 + 1 ≤ 0 + (p.window.length + 1)
  omega

/-! ### every move of the loop decreases the potential -/

theorem potential_draw {p p0 : Policy} (hd : Draw p p0) (vq cq : Nat) (v c : Option Nat) :
    potential ⟨p0, vq, cq, v, c⟩ = potential ⟨p, vq, cq, v, c⟩ := by
  obtain ⟨r, rfl⟩ := hd.eq
  rfl

/-- re-seating the candidate pointer at the head of the window spends the reserve -/
theorem potential_refill (s : Loop) : potential s.refill ≤ potential s := by
  obtain ⟨p, vq, cq, v, c⟩ := s
  dsimp only [potential, Loop.refill]
  by_cases h : (c.isNone && cq == 1) = true
  · rw [if_pos h, if_pos h]
    obtain ⟨rfl, rfl⟩ : c = none ∧ cq = 1 := by
      cases c with
      | none => exact ⟨rfl, by simpa using h⟩
      | some x => simp at h
    have := candRest_le p p.window.head?
    show victimRest p vq v + candRest p p.window.head? + 0 ≤ victimRest p vq v + 0 + ((all p).length + 2)
    omega
  · rw [if_neg h, if_neg h]
    exact Nat.le_refl _

section
variable {p p' : Policy} {vq vq' cq : Nat} {v v' c c' : Option Nat}

/-- the victim pointer pays for a move: its part of the potential decreases, the other two do not grow -/
theorem victim_pays (hv : victimRest p' vq' v' + 1 ≤ victimRest p vq v) (hc : candRest p' c' ≤ candRest p c)
    (hr : refillCredit p' cq ≤ refillCredit p cq) : potential ⟨p', vq', cq, v', c'⟩ < potential ⟨p, vq, cq, v, c⟩ :=
  Nat.add_lt_add_of_lt_of_le (Nat.add_lt_add_of_lt_of_le hv hc) hr

theorem cand_pays (hv : victimRest p' vq' v' ≤ victimRest p vq v) (hc : candRest p' c' + 1 ≤ candRest p c)
    (hr : refillCredit p' cq ≤ refillCredit p cq) : potential ⟨p', vq', cq, v', c'⟩ < potential ⟨p, vq, cq, v, c⟩ :=
  Nat.add_lt_add_of_lt_of_le (Nat.add_lt_add_of_le_of_lt hv hc) hr

end

theorem potential_step {s s' : Loop} (h : VictimInv s.p s.vq s.v) (hs : Step s s') : potential s' < potential s := by
  cases hs with
  | toProt p cq => exact victim_pays (victimRest_toProt p) (Nat.le_refl _) (Nat.le_refl _)
  | toWindow p cq => exact victim_pays (victimRest_toWindow p) (Nat.le_refl _) (Nat.le_refl _)
  | skipV _ => exact victim_pays (victimRest_skip h) (Nat.le_refl _) (Nat.le_refl _)
  | skipC _ => exact cand_pays (Nat.le_refl _) (candRest_next _ _ h.nodup) (Nat.le_refl _)
  | @evictV p p0 vq cq x c c' _ hd hc =>
    have h0 := h.draw hd
    have hn := h0.nodup
    rw [← potential_draw hd]
    refine victim_pays (victimRest_evict_self h0) ?_ (refillCredit_evict p0 cq x hn)
    rcases hc with rfl | ⟨hne, rfl | ⟨y, rfl, rfl⟩⟩
    · exact Nat.zero_le _
    · exact candRest_evict_other p0 c' x hn hne
    · exact Nat.le_trans (Nat.le_of_succ_le (candRest_next _ y (nodup_evictNode hn x))) (candRest_evict_other p0 (some y) x hn hne)
  | @evictC p p0 vq cq v y _ hne hd =>
    have hn := (h.draw hd).nodup
    rw [← potential_draw hd]
    exact cand_pays (victimRest_evict_other p0 vq y v hn hne) (candRest_evict_next p0 y hn) (refillCredit_evict p0 cq y hn)

theorem potential_start (p : Policy) (c : Option Nat) :
    potential (Loop.start p c) < 4 * (p.window.length + p.probation.length + p.prot.length) + 16 := by
  have a := remaining_le p.probation p.probation.head?
  have b := candRest_le p c
  have n : (all p).length = p.window.length + (p.probation.length + p.prot.length) := by
    unfold all; rw [List.length_append, List.length_append]
  show remaining p.probation p.probation.head? + (p.prot.length + p.window.length + 2) + candRest p c + ((all p).length + 2) < _
  omega

theorem evictNodes_never_runs_out {p : Policy} (hn : (all p).Nodup) : evictNodesRanOut p = false :=
  Loop.run_fuel (I := fun s => VictimInv s.p s.vq s.v) (μ := potential) (fun s h => ⟨h, potential_refill s⟩)
    (fun _ _ h hs => ⟨victimInv_step h hs, potential_step h hs⟩) _ (Loop.start (evictFromWindow p).1 (evictFromWindow p).2)
    (victimInv_start ((mv_evictFromWindow p).nodup hn)) (potential_start _ _)

/-- after an eviction pass over a reachable state the running total is within the maximum: the pass ends within it, or with
    nothing but weightless nodes linked, whose total is 0 -/
theorem evictNodes_le_maximum {S : List Nat} {p : Policy} (h : Reach S p) :
    (evictNodes p).weightedSize.toNat ≤ (evictNodes p).maximum.toNat := by
  rcases bound_evictNodes (reach_inv h).c (evictNodes_never_runs_out (reach_inv h).c) with hb | hz
  · simpa [BitVec.ult] using hb
  · rw [show (evictNodes p).weightedSize = wsum _ (all _) from reach_winv (Reach.evict h), wsum_zero _ _ hz]
    exact Nat.zero_le _

end OtterVerif.Impl.Policy
