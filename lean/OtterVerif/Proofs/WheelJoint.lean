/-
  Proofs.WheelJoint — the timer wheel loses nothing (C05: "no entry present but unknown to the expiration policy"), and the
  sweep theorem stated on the cache's contents (C13).

  DeleteExpired(T) keeps a scheduled node scheduled (with its deadline) or hands it to the expiration callback: read off
  `sweepBucket_spec` for the sweep of one bucket, carried over the levels and the cascade by `deleteExpired_bucketwise`.
  Joint model with the table: `WJ w live` says of a reachable wheel and the mapped nodes with their deadlines (`live`) that
  every one of them is scheduled; each step of the cache that the wheel sees (insertion, removal, deadline change, sweep)
  keeps it.  The histories made of these steps are in Props.C13Joint and Proofs.CacheAll.
-/
import OtterVerif.Proofs.WheelSweep

namespace OtterVerif.Impl.Wheel

/-- node n is scheduled with deadline d -/
def Has (w : Wheel) (n d : Nat) : Prop := ∃ l s x, x ∈ w.bucket l s ∧ x.id = n ∧ x.d = d

theorem has_add_keeps {w : Wheel} (hsh : Shape w) (n' d' : Nat) {n d : Nat} (h : Has w n d) : Has (add w n' d') n d := by
  obtain ⟨l, s, x, hx, h1, h2⟩ := h
  exact ⟨l, s, x, (mem_bucket_add hsh n' d' l s x).mpr (Or.inl hx), h1, h2⟩

theorem has_add_new {w : Wheel} (hsh : Shape w) (n d : Nat) : Has (add w n d) n d :=
  ⟨_, _, _, (mem_bucket_add hsh n d _ _ _).mpr (Or.inr ⟨rfl, rfl, rfl⟩), rfl, rfl⟩

theorem has_add_other (w : Wheel) (n' d' n d : Nat) (hsh : Shape w) (ht : w.time < two64) (hd : d' < two64)
    (h : Has w n d) : Has (add w n' d') n d := has_add_keeps hsh n' d' h

theorem has_add_self (w : Wheel) (n d : Nat) (hsh : Shape w) (ht : w.time < two64) (hd : d < two64) : Has (add w n d) n d :=
  has_add_new hsh n d

theorem has_delete_other (w : Wheel) (n' n d : Nat) (hne : n ≠ n') (h : Has w n d) : Has (delete w n') n d := by
  obtain ⟨l, s, x, hx, h1, h2⟩ := h
  refine ⟨l, s, x, ?_, h1, h2⟩
  rw [bucket_delete]
  exact List.mem_filter.mpr ⟨hx, by rw [h1]; simpa using hne⟩

theorem not_has_delete (w : Wheel) (n d : Nat) : ¬ Has (delete w n) n d := by
  rintro ⟨l, s, x, hx, h1, _⟩
  rw [bucket_delete] at hx
  have := (List.mem_filter.mp hx).2
  simp [h1] at this

/-- node n with deadline d is not lost: it is scheduled in the wheel `acc.1` with that deadline, or among the nodes `acc.2`
    handed to the expiration callback so far -/
def KeptOrExpired (acc : Wheel × List Nat) (n d : Nat) : Prop := Has acc.1 n d ∨ n ∈ acc.2

theorem sweepBucket_keep {w : Wheel} (hsh : Shape w) {lvl slot : Nat} (hl : lvl < 5) (hs : slot < buckets lvl) {n d : Nat}
    (h : Has w n d) : KeptOrExpired (sweepBucket w lvl slot) n d := by
  obtain ⟨l, s, x, hx, rfl, rfl⟩ := h
  obtain ⟨_, _, hb, hex⟩ := sweepBucket_spec w hsh hl hs
  by_cases e : l = lvl ∧ s = slot
  · obtain ⟨rfl, rfl⟩ := e
    by_cases hdue : x.d < w.time
    · exact Or.inr ((hex x.id).mpr ⟨x, hx, hdue, rfl⟩)
    · exact Or.inl ⟨_, _, _, (hb _ _ _).mpr (Or.inr ⟨x, hx, hdue, rfl, rfl, rfl⟩), rfl, rfl⟩
  · exact Or.inl ⟨l, s, x, (hb l s x).mpr (Or.inl ⟨e, hx⟩), rfl, rfl⟩

/-- **DeleteExpired loses nothing**: a scheduled node is still scheduled (with its deadline) afterwards, or it was handed to
    the expiration callback.  Neither the placement of the entries nor the clock matters -/
theorem deleteExpired_keptOrExpired {w : Wheel} (hsh : Shape w) (T : Nat) {n d : Nat} (hh : Has w n d) :
    KeptOrExpired (deleteExpired w T) n d := by
  refine (deleteExpired_bucketwise (P := fun acc => Shape acc.1 ∧ KeptOrExpired acc n d)
    (fun w' ex lvl slot hl hs ⟨hsh', hk⟩ => ⟨(sweepBucket_spec w' hsh' hl hs).2.1, ?_⟩) w T ⟨hsh, Or.inl hh⟩).2
  rcases hk with hk | hx
  · exact (sweepBucket_keep hsh' hl hs hk).elim Or.inl fun hm => Or.inr (List.mem_append_right _ hm)
  · exact Or.inr (List.mem_append_left _ hx)

theorem deleteExpired_keep (w : Wheel) (T : Nat) (hT : T < two64) (htT : w.time ≤ T) (h : InvAt w.time w) (n d : Nat) (hh : Has w n d) :
    Has (deleteExpired w T).1 n d ∨ n ∈ (deleteExpired w T).2 :=
  deleteExpired_keptOrExpired h.1 T hh

/-! ### joint model: the table's mapped nodes and the wheel -/

structure WJ (w : Wheel) (live : List (Nat × Nat)) : Prop where
  reach : WReach w
  /-- every mapped node with a deadline is scheduled with that deadline -/
  sched : ∀ p, p ∈ live → Has w p.1 p.2
  ids : (live.map (·.1)).Nodup

theorem wj_init : WJ {} [] := ⟨WReach.init, (fun p hp => by cases hp), List.nodup_nil⟩

/-- a new node (its write event replayed): scheduled -/
theorem wj_insert {w : Wheel} {live : List (Nat × Nat)} (h : WJ w live) (n d : Nat) (hd : d < two64)
    (hn : n ∉ live.map (·.1)) : WJ (add w n d) ((n, d) :: live) := by
  have hi := wreach_inv h.reach
  refine ⟨WReach.add n d h.reach hd, fun p hp => ?_, ?_⟩
  · rcases List.mem_cons.mp hp with e | e
    · rw [e]; exact has_add_new hi.2.1 n d
    · exact has_add_keeps hi.2.1 n d (h.sched p e)
  · rw [List.map_cons, List.nodup_cons]; exact ⟨hn, h.ids⟩

theorem WJ.filter_to {w w' : Wheel} {live : List (Nat × Nat)} (h : WJ w live) (f : Nat × Nat → Bool) (hr : WReach w')
    (hs : ∀ p, p ∈ live → f p = true → Has w' p.1 p.2) : WJ w' (live.filter f) :=
  ⟨hr, fun p hp => hs p (List.mem_filter.mp hp).1 (List.mem_filter.mp hp).2, h.ids.sublist (List.filter_sublist.map _)⟩

/-- a removed node (replaced, invalidated, evicted for size): unscheduled; the others stay -/
theorem wj_remove {w : Wheel} {live : List (Nat × Nat)} (h : WJ w live) (n : Nat) :
    WJ (delete w n) (live.filter (·.1 != n)) :=
  h.filter_to _ (WReach.del n h.reach) fun p hp hf => has_delete_other w n _ _ (by simpa using hf) (h.sched p hp)

/-- the table drops entries on its own (expired ones, after the sweep): the others stay scheduled -/
theorem WJ.filter {w : Wheel} {live : List (Nat × Nat)} (h : WJ w live) (f : Nat × Nat → Bool) : WJ w (live.filter f) :=
  h.filter_to f h.reach fun p hp _ => h.sched p hp

/-- a node takes the place of `old` (a replaced value; `n = old`: a read that moved the deadline, unlinked and scheduled again) -/
theorem wj_reinsert {w : Wheel} {live : List (Nat × Nat)} (h : WJ w live) (old n d : Nat) (hd : d < two64)
    (hn : n ∉ live.map (·.1) ∨ n = old) : WJ (add (delete w old) n d) ((n, d) :: live.filter (·.1 != old)) := by
  refine wj_insert (wj_remove h old) n d hd (fun hm => ?_)
  obtain ⟨q, hq, e⟩ := List.mem_map.mp hm
  have hf := List.mem_filter.mp hq
  exact hn.elim (fun hn => hn (List.mem_map.mpr ⟨q, hf.1, e⟩)) (fun eo => by simp [e, eo] at hf)

/-- maintenance at clock T: DeleteExpired, then the table unlinks what the expiration callback was called for -/
def sweepLive (w : Wheel) (T : Nat) (live : List (Nat × Nat)) : List (Nat × Nat) :=
  live.filter (fun p => !((deleteExpired w T).2.contains p.1))

theorem wj_sweep {w : Wheel} {live : List (Nat × Nat)} (h : WJ w live) (T : Nat) (hle : w.time ≤ T) (hT : T < two64) :
    WJ (deleteExpired w T).1 (sweepLive w T live) :=
  h.filter_to _ (WReach.sweep T h.reach hle hT) fun p hp hf =>
    (deleteExpired_keptOrExpired (wreach_inv h.reach).2.1 T (h.sched p hp)).resolve_right (by simpa using hf)

/-- **C13 on the cache's contents**: after maintenance at T every node still mapped is scheduled in a bucket that is correct for
    T — its effective time (the later of its deadline and the wheel time at which it was scheduled) does not lie in a tick
    before T's: an entry whose deadline AND whose scheduling lie a full tick before T is gone -/
theorem c13_mapped_not_overdue {w : Wheel} {live : List (Nat × Nat)} (h : WJ w live) (T : Nat) (hle : w.time ≤ T)
    (hT : T < two64) (p : Nat × Nat) (hp : p ∈ sweepLive w T live) :
    ∃ x : Ent, x.id = p.1 ∧ x.d = p.2 ∧ x.d ≤ x.e ∧ T >>> shift 0 ≤ x.e >>> shift 0 := by
  obtain ⟨l, s, x, hx, h1, h2⟩ := (wj_sweep h T hle hT).sched p hp
  have hg := (deleteExpired_inv w T hT hle (wreach_inv h.reach).2).2.2 l s x hx
  exact ⟨x, h1, h2, hg.de, good_not_overdue T l s x hg⟩

end OtterVerif.Impl.Wheel
