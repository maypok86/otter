/-
  Proofs.PolicyBound — after evictNodes the policy is within its maximum, or only zero-weight entries are left.

  The victim pointer of evictFromMain walks probation, then protected, then the window; it advances only past a node that
  was evicted or has weight zero.  Invariant: every node the pointer has passed (and still linked) has weight zero.
-/
import OtterVerif.Proofs.PolicyWeight

namespace OtterVerif.Impl.Policy

/-! ### lists: a pointer into a duplicate-free list -/

/-- the element after x in l -/
def succOf (l : List Nat) (x : Nat) : Option Nat := (l.dropWhile (· != x)).tail.head?

theorem dropWhile_split {pre : List Nat} {x : Nat} (rest : List Nat) (h : x ∉ pre) :
    (pre ++ x :: rest).dropWhile (· != x) = x :: rest := by
  rw [List.dropWhile_append_of_pos, List.dropWhile_cons_of_neg (by simp)]
  exact fun a ha => bne_iff_ne.mpr fun e => h (e ▸ ha)

/-- the pointer `v` cuts the duplicate-free list `l` into `pre`, which it has passed, and `post`, which it heads (`v = none`:
    the pointer ran off the end, `post = []`).  What the proofs need to know of a pointer is read off its cut (the nodes in
    `pre`: `VictimInv.here`; the length of `post`: `remaining`, Proofs.PolicyFuel); a move of the pointer is a lemma about `Cut`. -/
structure Cut (l : List Nat) (v : Option Nat) (pre post : List Nat) : Prop where
  nodup : l.Nodup
  eq : l = pre ++ post
  head : post.head? = v

section
variable {l pre post : List Nat} {v : Option Nat} {x : Nat}

theorem Cut.start (hn : l.Nodup) : Cut l l.head? [] l := ⟨hn, rfl, rfl⟩

theorem Cut.of_mem (hn : l.Nodup) (hx : x ∈ l) : ∃ pre post, Cut l (some x) pre post := by
  obtain ⟨pre, rest, rfl⟩ := List.append_of_mem hx
  exact ⟨pre, x :: rest, hn, rfl, rfl⟩

/-- the cut at an element, spelt out: the split `l = pre ++ x :: rest` with `x` in neither part -/
theorem Cut.split (h : Cut l (some x) pre post) :
    ∃ rest, post = x :: rest ∧ l = pre ++ x :: rest ∧ x ∉ pre ∧ x ∉ rest := by
  obtain ⟨hn, rfl, hh⟩ := h
  cases post with
  | nil => cases hh
  | cons a rest =>
    cases hh
    have hd := List.nodup_append.mp hn
    exact ⟨rest, rfl, rfl, fun hm => hd.2.2 x hm x List.mem_cons_self rfl, (List.nodup_cons.mp hd.2.1).1⟩

theorem Cut.mem (h : Cut l (some x) pre post) : x ∈ l := by
  obtain ⟨rest, _, e, _⟩ := h.split
  rw [e]; simp

/-- the pointer steps to the next element -/
theorem Cut.skip (h : Cut l (some x) pre post) : Cut l (succOf l x) (pre ++ [x]) post.tail := by
  obtain ⟨rest, rfl, e, hp, _⟩ := h.split
  refine ⟨h.nodup, by rw [e]; simp, ?_⟩
  rw [e, succOf, dropWhile_split rest hp]

/-- the pointer's element is removed and the pointer steps to the next -/
theorem Cut.evict_self (h : Cut l (some x) pre post) : Cut (l.filter (· != x)) (succOf l x) pre post.tail := by
  obtain ⟨rest, rfl, e, hp, hr⟩ := h.split
  refine ⟨h.nodup.filter _, ?_, ?_⟩
  · rw [e, List.filter_append, List.filter_cons, List.filter_bne_eq_self_of_not_mem hp,
      List.filter_bne_eq_self_of_not_mem hr]; simp
  · rw [e, succOf, dropWhile_split rest hp]

/-- another element is removed and the pointer stays -/
theorem Cut.evict_other {c : Nat} (h : Cut l v pre post) (hne : v ≠ some c) :
    Cut (l.filter (· != c)) v (pre.filter (· != c)) (post.filter (· != c)) := by
  refine ⟨h.nodup.filter _, by rw [h.eq, List.filter_append], ?_⟩
  cases v with
  | none => rw [List.head?_eq_none_iff.mp h.head]; rfl
  | some x =>
    obtain ⟨rest, rfl, _⟩ := h.split
    rw [List.filter_cons, if_pos (by simpa using fun e => hne (by rw [e]))]; rfl

end

/-! ### zero-weight prefixes -/

def AllZ (p : Policy) (l : List Nat) : Prop := ∀ y, y ∈ l → (p.node y).weight = 0

theorem AllZ.congr {p p' : Policy} {l : List Nat} (h : AllZ p l) (hw : ∀ y, (p'.node y).weight = (p.node y).weight) : AllZ p' l :=
  fun y hy => by rw [hw y]; exact h y hy

theorem AllZ.filter {p : Policy} {l : List Nat} (c : Nat) (h : AllZ p l) : AllZ p (l.filter (· != c)) :=
  fun y hy => h y (List.mem_filter.mp hy).1

theorem AllZ.snoc {p : Policy} {l : List Nat} {x : Nat} (h : AllZ p l) (hz : (p.node x).weight = 0) : AllZ p (l ++ [x]) := by
  intro y hy
  rcases List.mem_append.mp hy with hm | hm
  · exact h y hm
  · rw [List.mem_singleton.mp hm]; exact hz

/-! ### what an eviction does to each queue -/

theorem dqs_evictNode {p : Policy} (c : Nat) (h : (all p).Nodup) : Dqs (List.filter (· != c)) p (evictNode p c) := by
  have d := dqs_makeDead (once_of_nodup h c)
  rw [evictNode_eq]
  exact ⟨d.1, d.2.1, d.2.2⟩

theorem weight_evictNode (p : Policy) (c y : Nat) : ((evictNode p c).node y).weight = (p.node y).weight := by
  rw [node_evictNode]; exact makeDead_weight p c y

theorem max_makeDead (p : Policy) (c : Nat) : (makeDead p c).maximum = p.maximum :=
  (markDead_fields _ c).2.2.2.2.1.trans (unlink_fields p c).1

/-! ### `next` is the successor within the node's queue -/

theorem next_of_linkedIn {p : Policy} {q x : Nat} (h : linkedIn p x = some q) : next p x = succOf (dq p q) x := by
  unfold next succOf
  rw [h]
  simp only
  cases List.dropWhile (fun y => y != x) (dq p q) with
  | nil => rfl
  | cons a as => cases as <;> rfl

/-! ### the victim-pointer invariant -/

/-- the victim pointer walks probation (1), then protected (2), then the window (0): the queues it has left behind -/
def queuesPassed (vq : Nat) : List Nat := if vq = 1 then [] else if vq = 2 then [1] else [1, 2]

/-- the victim pointer `v` is in queue `vq`, and every node it has passed and that is still linked has weight zero; no node
    is linked twice (what makes `next` the successor in the pointer's queue, and an eviction a filter of every queue) -/
structure VictimInv (p : Policy) (vq : Nat) (v : Option Nat) : Prop where
  nodup : (all p).Nodup
  queue : vq < 3
  passed : ∀ q, q ∈ queuesPassed vq → AllZ p (dq p q)
  here : ∃ pre post, Cut (dq p vq) v pre post ∧ AllZ p pre

/-- how an eviction pass ends: within the maximum, or with nothing but weightless nodes linked -/
def WithinOrWeightless (r : Policy) : Prop := BitVec.ult r.maximum r.weightedSize = false ∨ AllZ r (all r)

theorem nodup_evictNode {p : Policy} (hn : (all p).Nodup) (c : Nat) : (all (evictNode p c)).Nodup := by
  rw [(kill_evictNode p c hn).1]; exact hn.filter _

section
variable {p : Policy} {vq : Nat}

theorem VictimInv.mem {x : Nat} (h : VictimInv p vq (some x)) : x ∈ dq p vq :=
  let ⟨_, _, c, _⟩ := h.here
  c.mem

theorem VictimInv.next_eq {x : Nat} (h : VictimInv p vq (some x)) : next p x = succOf (dq p vq) x :=
  next_of_linkedIn (linkedIn_of_mem (once_of_nodup h.nodup x) h.queue h.mem)

theorem VictimInv.evict_other {v : Option Nat} {c : Nat} (h : VictimInv p vq v) (hne : v ≠ some c) :
    VictimInv (evictNode p c) vq v := by
  have hq := (dqs_evictNode c h.nodup).dq
  have hw := weight_evictNode p c
  obtain ⟨pre, post, k, hp⟩ := h.here
  refine ⟨nodup_evictNode h.nodup c, h.queue, fun q m => ?_, pre.filter (· != c), post.filter (· != c), ?_,
    (hp.filter c).congr hw⟩
  · rw [hq]; exact ((h.passed q m).filter c).congr hw
  · rw [hq]; exact k.evict_other hne

theorem VictimInv.evict_self {x : Nat} (h : VictimInv p vq (some x)) : VictimInv (evictNode p x) vq (next p x) := by
  have hq := (dqs_evictNode x h.nodup).dq
  have hw := weight_evictNode p x
  obtain ⟨pre, post, k, hp⟩ := h.here
  refine ⟨nodup_evictNode h.nodup x, h.queue, fun q m => ?_, pre, post.tail, ?_, hp.congr hw⟩
  · rw [hq]; exact ((h.passed q m).filter x).congr hw
  · rw [hq, h.next_eq]; exact k.evict_self

theorem VictimInv.skip {x : Nat} (h : VictimInv p vq (some x)) (hz : (p.node x).weight = 0) : VictimInv p vq (next p x) := by
  obtain ⟨pre, post, k, hp⟩ := h.here
  refine ⟨h.nodup, h.queue, h.passed, pre ++ [x], post.tail, ?_, hp.snoc hz⟩
  rw [h.next_eq]; exact k.skip

/-- the pointer has run off the end of its queue: every node of the queue has weight zero -/
theorem VictimInv.off (h : VictimInv p vq none) : AllZ p (dq p vq) := by
  obtain ⟨pre, post, k, hp⟩ := h.here
  rw [k.eq, List.head?_eq_none_iff.mp k.head, List.append_nil]; exact hp

theorem victimInv_start (hn : (all p).Nodup) : VictimInv p 1 p.probation.head? :=
  ⟨hn, by decide, nofun, [], _, .start (nodup_dq hn 1), nofun⟩

theorem VictimInv.toProt (h : VictimInv p 1 none) : VictimInv p 2 p.prot.head? :=
  ⟨h.nodup, by decide, fun q m => by rw [List.mem_singleton.mp m]; exact h.off, [], _, .start (nodup_dq h.nodup 2), nofun⟩

theorem VictimInv.toWindow (h : VictimInv p 2 none) : VictimInv p 0 p.window.head? := by
  refine ⟨h.nodup, by decide, fun q m => ?_, [], _, .start (nodup_dq h.nodup 0), nofun⟩
  rcases List.mem_cons.mp m with rfl | m
  · exact h.passed 1 List.mem_cons_self
  · rw [List.mem_singleton.mp m]; exact h.off

/-- the pointer has run off the last queue: every linked node has weight zero -/
theorem VictimInv.final (h : VictimInv p vq none) (h1 : vq ≠ 1) (h2 : vq ≠ 2) : AllZ p (all p) := by
  obtain rfl : vq = 0 := by have := h.queue; omega
  intro y hy
  unfold all at hy
  rcases List.mem_append.mp hy with hm | hm
  · exact h.off y hm
  · rcases List.mem_append.mp hm with hm | hm
    · exact h.passed 1 List.mem_cons_self y hm
    · exact h.passed 2 (List.mem_cons_of_mem _ List.mem_cons_self) y hm

theorem VictimInv.draw {p0 : Policy} {v : Option Nat} (h : VictimInv p vq v) (hd : Draw p p0) : VictimInv p0 vq v := by
  obtain ⟨r, rfl⟩ := hd.eq
  exact ⟨h.nodup, h.queue, h.passed, h.here⟩

end

theorem next_admit (p : Policy) (a b x : Nat) : next (admit p a b).1 x = next p x := by
  obtain ⟨r, e⟩ := admit_fst p a b
  rw [e]; rfl

theorem victimInv_step {s s' : Loop} (h : VictimInv s.p s.vq s.v) (hs : Step s s') : VictimInv s'.p s'.vq s'.v := by
  cases hs with
  | toProt p cq => exact h.toProt
  | toWindow p cq => exact h.toWindow
  | skipV hw => exact h.skip hw
  | skipC => exact h
  | evictV _ hd => exact (h.draw hd).evict_self
  | evictC _ hne hd => exact (h.draw hd).evict_other hne

/-- after evictNodes: within the maximum, or nothing but zero-weight entries left — provided the model's loop bound was not
    hit (the code's loop has no bound; the driver checks the flag on every run) -/
theorem bound_evictNodes {p : Policy} (hn : (all p).Nodup) (hr : evictNodesRanOut p = false) :
    WithinOrWeightless (evictNodes p) := by
  obtain ⟨t, hz, e, hd⟩ := evictNodes_inv (I := fun s => VictimInv s.p s.vq s.v) (fun _ h => h)
    (fun _ _ _ => victimInv_step) (p := p) (victimInv_start ((mv_evictFromWindow p).nodup hn))
  rw [e]
  rcases hd hr with h | ⟨hv, _, h1, h2⟩
  · exact Or.inl h
  · exact Or.inr (VictimInv.final (hv ▸ hz) h1 h2)

/-! ### entries of weight zero are never evicted for size reasons -/

/-- every node the run handed to evictNode beyond those in `base` has a non-zero weight (`w`: the weights, which the run
    does not change) -/
def EvictedNonzero (base : List Nat) (w : Nat → Nat) (r : Policy) : Prop := ∀ x, x ∈ r.evicted → x ∈ base ∨ w x ≠ 0

theorem EvictedNonzero.evict {base : List Nat} {w : Nat → Nat} {p : Policy} {c : Nat} (h : EvictedNonzero base w p)
    (hc : w c ≠ 0) : EvictedNonzero base w (evictNode p c) := by
  intro x hx
  rw [evicted_evictNode] at hx
  rcases List.mem_append.mp hx with hm | hm
  · exact h x hm
  · rw [List.mem_singleton.mp hm]; exact Or.inr hc

theorem evictedNonzero_step {base : List Nat} {w : Nat → Nat} {s s' : Loop}
    (h : (∀ y, (s.p.node y).weight = w y) ∧ EvictedNonzero base w s.p) (hs : Step s s') :
    (∀ y, (s'.p.node y).weight = w y) ∧ EvictedNonzero base w s'.p := by
  rcases hs.policy with e | ⟨p0, x, hd, hx, e⟩
  · rw [e]; exact h
  · obtain ⟨r, rfl⟩ := hd.eq
    rw [e]
    exact ⟨fun y => (weight_evictNode _ x y).trans (h.1 y), EvictedNonzero.evict (p := { s.p with rands := r }) h.2 (h.1 x ▸ hx)⟩

theorem evictNodes_nonzero (p : Policy) : ∀ x, x ∈ (evictNodes p).evicted → x ∈ p.evicted ∨ (p.node x).weight ≠ 0 := by
  obtain ⟨t, ⟨_, hz⟩, e, _⟩ := evictNodes_inv
    (I := fun s => (∀ y, (s.p.node y).weight = (p.node y).weight) ∧ EvictedNonzero p.evicted (fun y => (p.node y).weight) s.p)
    (fun _ h => h) (fun _ _ _ => evictedNonzero_step) (p := p)
    ⟨(mv_evictFromWindow p).weight, fun x hx => Or.inl ((mv_evictFromWindow p).evicted ▸ hx)⟩
  rw [e]
  exact hz

end OtterVerif.Impl.Policy
