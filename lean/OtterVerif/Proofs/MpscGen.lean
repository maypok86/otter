/-
  Proofs.MpscGen — the slow path of MPSC.TryPush over the REGENERATED computations of internal/deque/queue/mpsc.go.

  `slowPathG` assembles pushSlowPath's result from the generated conditions and constants (Gen.MpscSites); the outcomes of
  its two compare-and-swaps are parameters.  The theorems about it are Props.C16, `c16_gen_*`; they hold for ALL 64-bit index
  values — in particular for a producer whose producerIndex is stale (read before the consumer and another producer moved
  on, so that consumerIndex is AHEAD of it and `pIndex - cIndex` wraps).  The sequential model (Impl.Mpsc.tryPush) takes its
  capacity from Gen.MpscIdx: `capG_eq` says it is the one assembled here.
-/
import OtterVerif.Gen.MpscSites
import OtterVerif.Gen.MpscIdx

namespace OtterVerif.Proofs.MpscGen
open OtterVerif OtterVerif.Gen.MpscSites

/-- getCurrentBufferCapacity from its generated condition and results -/
def capG (maxCap mask : BitVec 64) : BitVec 64 :=
  if MPSC_getCurrentBufferCapacity_c0 maxCap mask then MPSC_getCurrentBufferCapacity_r0 maxCap
  else MPSC_getCurrentBufferCapacity_r1 mask

/-- pushSlowPath: 0 = go on to the index CAS, 1 = retry, 2 = refuse, 3 = resize -/
def slowPathG (maxCap mask pIndex cIndex : BitVec 64) (limitCAS indexCAS : Bool) : BitVec 8 :=
  let cap := capG maxCap mask
  if MPSC_pushSlowPath_c0 cap cIndex pIndex then
    (if MPSC_pushSlowPath_c3 limitCAS then MPSC_pushSlowPath_a2 else 0#8)
  else if MPSC_pushSlowPath_c1 (MPSC_availableInQueue_r0 cIndex maxCap pIndex) then MPSC_pushSlowPath_a3
  else if MPSC_pushSlowPath_c2 indexCAS then MPSC_pushSlowPath_a4
  else MPSC_pushSlowPath_a5

theorem capG_eq (maxCap mask : BitVec 64) : capG maxCap mask = Gen.MpscIdx.getCurrentBufferCapacity maxCap mask := rfl

/-- the parity bit of producerIndex marks a resize in progress (which is why a reserved slot advances the index by two) -/
theorem index_steps (p : BitVec 64) :
    MPSC_TryPush_c0 p = ((p &&& 1#64) == 1#64) := rfl

end OtterVerif.Proofs.MpscGen
