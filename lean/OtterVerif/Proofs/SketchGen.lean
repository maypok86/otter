/-
  Proofs.SketchGen — the REGENERATED computations of sketch.go (Gen.SketchSites: every index, shift, mask, comparison and
  counter update of ensureCapacity / frequency / increment / incrementAt / reset).  Here: the loop bound of `frequency`.
  That each function of the model Impl.Sketch is its control structure over the generated definitions, for all sketches and
  hashes — so that the never-under-count theorem (Proofs.SketchCount), which is about Impl.Sketch, is about the code's
  arithmetic — is `c18_gen_positions`, `c18_gen_counters`, `c18_gen_ensureCapacity` in Props.C18.
-/
import OtterVerif.Gen.SketchSites

namespace OtterVerif.Proofs.SketchGen
open OtterVerif OtterVerif.Gen.SketchSites

theorem frequency_loop (i : Nat) (hi : i < 2 ^ 64) : sketch_frequency_c1 (BitVec.ofNat 64 i) = decide (i < 4) := by
  unfold sketch_frequency_c1
  simp [BitVec.ult, Nat.mod_eq_of_lt hi]

end OtterVerif.Proofs.SketchGen
