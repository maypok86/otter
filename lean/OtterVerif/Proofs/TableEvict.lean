/-
  Proofs.TableEvict — automatic removals inside the refinement Impl.Table ⊑ Spec.
  `Impl.Table.evictNode` transcribes cache.evictNode + cache.deleteNodeFromMap: what the size policy (evictNodeBySize) and
  the timer wheel (DeleteExpired's callback) run for the node they picked.  Its event, with the truthful cause (Expiration iff
  the deadline has passed, else Overflow), is the input the spec judges (`Spec.evict`): an expired node's removal is always
  accepted, a live node's only under the guard `Spec.evictOk`, which is the policy's business (Proofs.PolicyJust; carried
  over to the table's total weight in Props/C04Table under `Agree` of Proofs.CacheAgree).  As long as the spec accepts each
  removal, the runs of a history with removals at arbitrary points stay in step (`xhistory_sim`).
-/
import OtterVerif.Proofs.TableTrace

namespace OtterVerif.Proofs.TableEvict
open OtterVerif OtterVerif.Impl.Table OtterVerif.Proofs.TableRefine OtterVerif.Proofs.TableTrace
open OtterVerif.Spec (Cause Event Out Entry Cfg Kind)

/-- the cause evictNode ends up reporting for the node it removes -/
def evictCause (n : TNode) (now : Int) : Cause := if hasExpired n now then .expiration else .overflow

theorem evictNode_eq (t : Tbl) (k : Nat) (same : Bool) (now : Int) :
    evictNode t k same now = match lookup t k, same with
      | some cur, true => (unlink t k, [{ key := cur.key, val := cur.val, cause := evictCause cur now }])
      | _, _ => (t, []) := by
  unfold evictNode getCause evictCause
  cases lookup t k with
  | none => rfl
  | some cur => cases same <;> cases hx : hasExpired cur now <;> simp [hx]

/-- **truthful cause**: whatever evictNode reports is Expiration exactly when the deadline has passed, else Overflow -/
theorem evict_cause_truthful (t : Tbl) (k : Nat) (same : Bool) (now : Int) (ev : Event)
    (h : ev ∈ (evictNode t k same now).2) :
    ∃ cur, lookup t k = some cur ∧ ev.val = cur.val ∧ ev.key = cur.key ∧
      (ev.cause = .expiration ↔ cur.exp ≤ now) ∧ (ev.cause = .overflow ↔ now < cur.exp) ∧
      ev.cause ≠ .invalidation ∧ ev.cause ≠ .replacement := by
  rw [evictNode_eq] at h
  split at h
  · rename_i cur hl
    simp only [List.mem_singleton] at h
    subst h
    refine ⟨cur, hl, rfl, rfl, ?_⟩
    simp only [evictCause, hasExpired]
    by_cases hx : cur.exp ≤ now
    · refine ⟨?_, ?_, ?_, ?_⟩ <;> simp [hx]
    · refine ⟨?_, ?_, ?_, ?_⟩ <;> simp [hx] <;> omega
  · cases h

/-- at most one value is reported, and only together with its removal from the table -/
theorem evict_reports_iff_removed (t : Tbl) (k : Nat) (same : Bool) (now : Int) :
    ((evictNode t k same now).2 = [] ∧ (evictNode t k same now).1 = t) ∨
    (∃ ev, (evictNode t k same now).2 = [ev] ∧ (evictNode t k same now).1 = unlink t k ∧ same = true ∧ (lookup t k).isSome) := by
  rw [evictNode_eq]
  split
  · rename_i hl
    exact .inr ⟨_, rfl, rfl, rfl, by rw [hl]; rfl⟩
  · exact .inl ⟨rfl, rfl⟩

/-- the spec's view of one automatic removal of key `k`: the event is built from the spec's own entry with the truthful
    cause, and must be justified (`Spec.evict`); a stale or absent node changes nothing -/
def specEvict (c : Cfg) (s : Spec.State) (k : Nat) (same : Bool) : Option (Spec.State × List Event) :=
  match s.phys k with
  | none => some (s, [])
  | some e =>
    if same then
      let ev : Event := { key := k, val := e.val, cause := if e.liveAt s.now then .overflow else .expiration }
      (Spec.evict c s ev).map (fun s' => (s', [ev]))
    else some (s, [])

theorem specEvict_some {c : Cfg} {s : Spec.State} {k : Nat} {same : Bool} {s' : Spec.State} {evs : List Event}
    (h : specEvict c s k same = some (s', evs)) :
    (s' = s ∧ evs = [] ∧ (s.phys k = none ∨ same = false)) ∨
    ∃ e, s.phys k = some e ∧ same = true ∧
      s' = Spec.evictApply s ⟨k, e.val, if e.liveAt s.now then .overflow else .expiration⟩ e ∧
      evs = [⟨k, e.val, if e.liveAt s.now then .overflow else .expiration⟩] := by
  unfold specEvict at h
  cases hp : s.phys k with
  | none => rw [hp] at h; cases h; exact .inl ⟨rfl, rfl, .inl rfl⟩
  | some e =>
    rw [hp] at h
    cases same with
    | false => cases h; exact .inl ⟨rfl, rfl, .inr rfl⟩
    | true =>
      simp only [↓reduceIte, Option.map_eq_some_iff, Prod.mk.injEq] at h
      obtain ⟨s1, hev, rfl, rfl⟩ := h
      obtain ⟨e', he', _, _, rfl⟩ := Spec.evict_some c s s1 _ hev
      obtain rfl : e = e' := Option.some.inj (hp.symm.trans he')
      exact .inr ⟨e, rfl, rfl, rfl, rfl⟩

theorem evict_refines (c : Cfg) (s : Spec.State) (t : Tbl) (k : Nat) (same : Bool) (hs : s.m = absT t)
    (hwf : ∀ o, lookup t k = some o → o.key = k) (s' : Spec.State) (evs : List Event)
    (hacc : specEvict c s k same = some (s', evs)) :
    absT (evictNode t k same s.now).1 = s'.m ∧ (evictNode t k same s.now).2 = evs ∧ s'.now = s.now := by
  have hphys := phys_map (MapEq.of_eq hs.symm) k
  rcases specEvict_some hacc with ⟨rfl, rfl, hc⟩ | ⟨e, hp, rfl, rfl, rfl⟩
  · have : evictNode t k same s'.now = (t, []) := by
      rw [evictNode_eq]
      rcases hc with hp | rfl
      · rw [hp] at hphys; rw [Option.map_eq_none_iff.mp hphys.symm]
      · cases lookup t k <;> rfl
    rw [this]; exact ⟨hs.symm, rfl, rfl⟩
  · rw [hp] at hphys
    obtain ⟨cur, hl, rfl⟩ := Option.map_eq_some_iff.mp hphys.symm
    rw [evictNode_eq, hl]
    refine ⟨?_, ?_, rfl⟩
    · show absT (unlink t k) = Spec.erase s.m k
      rw [hs, erase_absT]
    · simp only [hwf cur hl, evictCause, ← visible_iff_live]
      cases hasExpired cur s.now <;> rfl

/-- for a mapped node the spec's verdict is `Spec.evictOk` of the truthfully labelled event -/
theorem specEvict_isSome (c : Cfg) {s : Spec.State} {k : Nat} {e : Entry} (hp : s.phys k = some e) :
    (specEvict c s k true).isSome = Spec.evictOk c s ⟨k, e.val, if e.liveAt s.now then .overflow else .expiration⟩ e := by
  simp only [specEvict, Spec.evict, hp, ↓reduceIte, Option.isSome_map, beq_self_eq_true, Bool.true_and]
  generalize Spec.evictOk c s _ e = b
  cases b <;> rfl

/-- the removal of an expired node is always accepted: nothing but the passed deadline is needed -/
theorem expired_evict_accepted (c : Cfg) (s : Spec.State) (k : Nat) (e : Entry) (hp : s.phys k = some e)
    (hx : e.exp ≤ s.now) : (specEvict c s k true).isSome := by
  have hl : e.liveAt s.now = false := decide_eq_false (Int.not_lt.mpr hx)
  rw [specEvict_isSome c hp, hl]
  exact (Spec.evictOk_iff ..).mpr (.inl ⟨rfl, hx⟩)

/-- the removal of a live node is accepted exactly under size pressure on a bounded cache, and never for a zero weight -/
theorem live_evict_accepted_iff (c : Cfg) (s : Spec.State) (k : Nat) (e : Entry) (hp : s.phys k = some e)
    (hx : s.now < e.exp) :
    (specEvict c s k true).isSome ↔
      ∃ mx, s.maximum = some mx ∧ c.bounded = true ∧ e.weight ≠ 0 ∧ (s.totalWeight > mx ∨ e.weight > mx) := by
  have hl : e.liveAt s.now = true := decide_eq_true hx
  rw [specEvict_isSome c hp, hl, Spec.evictOk_iff]
  exact ⟨fun h => h.elim (fun h => nomatch h.1) fun ⟨_, hb, _, hw, mx, hm, ho⟩ => ⟨mx, hm, hb, hw, ho⟩,
    fun ⟨mx, hm, hb, hw, ho⟩ => .inr ⟨rfl, hb, hx, hw, mx, hm, ho⟩⟩

/-- … in the size policy's terms: when its 64-bit maximum `m` and running total `w` hold the cache's maximum and the total
    weight of the entries present, the pressure is the guard `m < w` of its eviction loop, or the entry alone exceeds the maximum -/
theorem live_evict_accepted_iff_guard (c : Cfg) (s : Spec.State) (k : Nat) (e : Entry) (hp : s.phys k = some e)
    (hx : s.now < e.exp) {m w : BitVec 64} {mx : Nat} (hmax : s.maximum = some mx) (hm : m.toNat = mx)
    (hw : w.toNat = s.totalWeight) :
    (specEvict c s k true).isSome ↔ c.bounded = true ∧ e.weight ≠ 0 ∧ (BitVec.ult m w = true ∨ mx < e.weight) := by
  rw [live_evict_accepted_iff c s k e hp hx, BitVec.ult_eq_decide, decide_eq_true_eq, hm, hw]
  exact ⟨fun ⟨_, h, hb, hne, ho⟩ => Option.some.inj (hmax.symm.trans h) ▸ ⟨hb, hne, ho⟩,
    fun ⟨hb, hne, ho⟩ => ⟨mx, hmax, hb, hne, ho⟩⟩

/-! ### histories with automatic removals at arbitrary points -/

inductive XOp where
  | base (op : Op)
  /-- evictNode for the node mapped under `k` (`same`) or for a node that is no longer mapped -/
  | evict (k : Nat) (same : Bool)

def xistep (c : Cfg) (s : IState) : XOp → IState × Out × List Event
  | .base op => istep c s op
  | .evict k same => let r := evictNode s.t k same s.now; ({ s with t := r.1 }, .unit, r.2)

def xsstep (c : Cfg) (s : Spec.State) : XOp → Option (Spec.State × Out × List Event)
  | .base op => some (sstep c s op)
  | .evict k same => (specEvict c s k same).map (fun r => (r.1, .unit, r.2))

theorem evictNode_eff (cfg : TCfg) (t : Tbl) (k : Nat) (same : Bool) (now : Int) :
    Eff cfg now t (evictNode t k same now).1 (evictNode t k same now).2 0 := by
  rw [evictNode_eq]
  split
  · exact .delete ‹_› _
  · exact .same

theorem xstep_sim (c : Cfg) (is : IState) (ss : Spec.State) (op : XOp) (hm : ss.m = absT is.t) (hnow : ss.now = is.now)
    (hok : AllOk is.t) (hn : InRange is.now) (hk1 : KindOk c.expiry) (hk2 : KindOk c.refresh) (hr : ReadOk c)
    (r : Spec.State × Out × List Event) (hacc : xsstep c ss op = some r) :
    r.1.m = absT (xistep c is op).1.t ∧ r.1.now = (xistep c is op).1.now ∧ (xistep c is op).2 = r.2 ∧
    AllOk (xistep c is op).1.t := by
  cases op with
  | base op =>
    obtain rfl := Option.some.inj hacc
    have := step_sim MapRel.eq c is ss op hm.symm hnow hok hn hk1 hk2 hr
    exact ⟨this.1.symm, this.2.1, this.2.2, istep_allOk c is op hok hn⟩
  | evict k same =>
    obtain ⟨q, hq, rfl⟩ := Option.map_eq_some_iff.mp hacc
    have := evict_refines c ss is.t k same hm (fun o ho => (hok k o ho).1) q.1 q.2 hq
    rw [hnow] at this
    exact ⟨this.1.symm, this.2.2, by show (Out.unit, _) = (Out.unit, _); rw [this.2.1],
      (evictNode_eff (cfgOf c) _ _ _ _).allOk hok hn⟩

def xirun (c : Cfg) : IState → List XOp → IState × List (Out × List Event)
  | s, [] => (s, [])
  | s, op :: rest => let r := xistep c s op; let q := xirun c r.1 rest; (q.1, r.2 :: q.2)

/-- the spec's run: fails (none) at the first removal it does not accept -/
def xsrun (c : Cfg) : Spec.State → List XOp → Option (Spec.State × List (Out × List Event))
  | s, [] => some (s, [])
  | s, op :: rest =>
    match xsstep c s op with
    | none => none
    | some r => (xsrun c r.1 rest).map (fun q => (q.1, r.2 :: q.2))

theorem isRun_xirun (c : Cfg) : RunSim.IsRun (xistep c) (xirun c) := ⟨fun _ => rfl, fun _ _ _ => rfl⟩
theorem isRun_xsrun (c : Cfg) : RunSim.IsRunOpt (xsstep c) (xsrun c) := ⟨fun _ => rfl, fun s op _ => by rw [xsrun]; cases xsstep c s op <;> rfl⟩

def XClockOk (now : Int) : List XOp → Prop
  | [] => InRange now
  | .base (.advance d) :: rest => InRange now ∧ XClockOk (now + d) rest
  | _ :: rest => InRange now ∧ XClockOk now rest

theorem xclockOk_cons (c : Cfg) (is : IState) (op : XOp) (rest : List XOp) (h : XClockOk is.now (op :: rest)) :
    InRange is.now ∧ XClockOk (xistep c is op).1.now rest := by
  cases op with
  | base o => cases o <;> exact h
  | evict k same => exact h

/-- **every history with automatic removals**: whenever the spec accepts the removals the run makes (each is judged with
    its truthful cause in the state it happens in), results, events and final map agree -/
theorem xhistory_sim (c : Cfg) (hk1 : KindOk c.expiry) (hk2 : KindOk c.refresh) (hr : ReadOk c) (ops : List XOp) :
    ∀ (is : IState) (ss : Spec.State), ss.m = absT is.t → ss.now = is.now → AllOk is.t → XClockOk is.now ops →
      ∀ q, xsrun c ss ops = some q → (xirun c is ops).2 = q.2 ∧ q.1.m = absT (xirun c is ops).1.t := by
  intro is ss hm hnow hok hclk q hq
  have := RunSim.run_sim (isRun_xirun c) (isRun_xsrun c)
    (fun ops is ss => ss.m = absT is.t ∧ ss.now = is.now ∧ AllOk is.t ∧ XClockOk is.now ops)
    (fun op rest is ss r ⟨hm, hnow, hok, hclk⟩ hacc => by
      have ⟨hn, hclk'⟩ := xclockOk_cons c is op rest hclk
      have hs := xstep_sim c is ss op hm hnow hok hn hk1 hk2 hr r hacc
      exact ⟨hs.2.2.1, hs.1, hs.2.1, hs.2.2.2, hclk'⟩)
    ops is ss ⟨hm, hnow, hok, hclk⟩ q hq
  exact ⟨this.1, this.2.1⟩

/-- only a removal can make the spec's run fail: every other operation is accepted -/
theorem xsstep_base_some (c : Cfg) (s : Spec.State) (op : Op) : (xsstep c s (.base op)).isSome := rfl

end OtterVerif.Proofs.TableEvict
