/-
  Proofs.PolicyKills — what the operations of Impl.Policy do to the node states and to the list of nodes handed to the
  eviction callback (`evicted`), as ONE relation `Kills Q p p'`: every node keeps its state or dies; a node that dies is handed
  to the callback or belongs to `Q` (the node the table replaced or removed); the callback list grows, by dead nodes only.
  It is reflexive and transitive, holds of every step that leaves states and callback list alone, and of a step in which one
  node dies (`Kills.of_kill`); so it holds of add and update by their cases (`AddCase`, `UpdateCase`,
  `updateTail_preserves` of Proofs.PolicyLink) and of the eviction pass along its `Just` chain.  The three relations the joint model is stated with
  (`Dn`, `DE`, `Ek`) are its projections.
-/
import OtterVerif.Proofs.PolicyLink

namespace OtterVerif.Impl.Policy

/-- node states change only by dying -/
def Dn (p p' : Policy) : Prop := ∀ id, (p'.node id).st = (p.node id).st ∨ (p'.node id).st = .dead

/-- the callback list only grows; an alive node stays alive or is handed to the callback -/
def Ek (p p' : Policy) : Prop :=
  (∀ x, x ∈ p.evicted → x ∈ p'.evicted) ∧
  ∀ id, (p.node id).st = .alive → (p'.node id).st = .alive ∨ id ∈ p'.evicted

/-- the converse of `Ek`: whatever is newly on the callback list is dead (and nodes only die: `Dn`) -/
def DE (p p' : Policy) : Prop := Dn p p' ∧ ∀ x, x ∈ p'.evicted → x ∈ p.evicted ∨ (p'.node x).st = .dead

theorem Dn.dead {p p' : Policy} (h : Dn p p') {x : Nat} (hd : (p.node x).st = .dead) : (p'.node x).st = .dead :=
  (h x).elim (fun e => e.trans hd) id

theorem Dn.alive {p p' : Policy} (h : Dn p p') {x : Nat} (ha : (p'.node x).st = .alive) : (p.node x).st = .alive := by
  rcases h x with e | d
  · exact e.symm.trans ha
  · rw [d] at ha; exact NState.noConfusion ha

/-! ### the relation -/

/-- nodes only die; each death is reported to the callback or is that of a node in `Q`; the callback list grows by dead nodes -/
structure Kills (Q : Nat → Prop) (p p' : Policy) : Prop where
  st : ∀ id, (p'.node id).st = (p.node id).st ∨ ((p'.node id).st = .dead ∧ (id ∈ p'.evicted ∨ Q id))
  grow : ∀ x, x ∈ p.evicted → x ∈ p'.evicted
  dead : ∀ x, x ∈ p'.evicted → x ∈ p.evicted ∨ (p'.node x).st = .dead

section
variable {Q : Nat → Prop} {p p' p'' : Policy}

theorem Kills.dn (h : Kills Q p p') : Dn p p' := fun x => (h.st x).imp (fun e => e) And.left

theorem Kills.de (h : Kills Q p p') : DE p p' := ⟨h.dn, h.dead⟩

theorem Kills.ek (h : Kills Q p p') (hq : ∀ id, Q id → (p.node id).st ≠ .alive) : Ek p p' := by
  refine ⟨h.grow, fun id ha => ?_⟩
  rcases h.st id with e | ⟨_, m | q⟩
  · exact Or.inl (e.trans ha)
  · exact Or.inr m
  · exact absurd ha (hq id q)

theorem Kills.of_same (hs : ∀ id, (p'.node id).st = (p.node id).st) (he : p'.evicted = p.evicted) : Kills Q p p' :=
  ⟨fun id => Or.inl (hs id), fun x hx => by rw [he]; exact hx, fun x hx => Or.inl (by rw [← he]; exact hx)⟩

theorem Kills.of_fields (hn : p'.nodes = p.nodes) (he : p'.evicted = p.evicted) : Kills Q p p' :=
  .of_same (fun id => by rw [node_congr hn]) he

theorem Fr.kills (h : Fr p p') : Kills Q p p' := .of_same h.st h.evicted

theorem Cnt.kills (h : Cnt p p') : Kills Q p p' := .of_fields h.nodes h.evicted

theorem Kills.refl (p : Policy) : Kills Q p p := .of_same (fun _ => rfl) rfl

theorem Kills.trans (h1 : Kills Q p p') (h2 : Kills Q p' p'') : Kills Q p p'' := by
  refine ⟨fun y => ?_, fun x hx => h2.grow x (h1.grow x hx), fun x hx => ?_⟩
  · rcases h2.st y with e | d
    -- the second step left y alone: what the first did to it stands, and a report of its death stays on the list
    · rw [e]
      rcases h1.st y with e1 | ⟨d1, r⟩
      · exact Or.inl e1
      · exact Or.inr ⟨d1, r.imp_left (h2.grow y)⟩
    · exact Or.inr d
  · exact (h2.dead x hx).elim (fun m => (h1.dead x m).imp_right h2.dn.dead) Or.inr

/-- one node dies, reported (`l = [x]`) or one of `Q` (`l = []`); no other node changes state -/
theorem Kills.of_kill {x : Nat} (l : List Nat) (hx : (p'.node x).st = .dead)
    (ho : ∀ id, id ≠ x → (p'.node id).st = (p.node id).st) (he : p'.evicted = p.evicted ++ l) (hl : ∀ y ∈ l, y = x)
    (hr : x ∈ l ∨ Q x) : Kills Q p p' := by
  refine ⟨fun id => ?_, fun y hy => by rw [he]; exact List.mem_append_left _ hy, fun y hy => ?_⟩
  · by_cases e : id = x
    · rw [e]; exact Or.inr ⟨hx, hr.imp (fun m => by rw [he]; exact List.mem_append_right _ m) (fun q => q)⟩
    · exact Or.inl (ho id e)
  · rw [he] at hy
    exact (List.mem_append.mp hy).imp id (fun m => by rw [hl y m]; exact hx)

/-- `makeDead x`, the policy's half of a removal the table made: x dies without a callback -/
theorem kills_makeDead (p : Policy) (x : Nat) (hq : Q x) : Kills Q p (makeDead p x) :=
  .of_kill [] (makeDead_dead p x) (fun id e => by rw [node_makeDead_other p x id e])
    (by rw [evicted_makeDead, List.append_nil]) nofun (Or.inr hq)

theorem kills_evictNode (p : Policy) (x : Nat) : Kills Q p (evictNode p x) :=
  .of_kill [x] (evictNode_dead p x) (fun id e => by rw [node_evictNode, node_makeDead_other p x id e])
    (evicted_evictNode p x) (fun _ => List.mem_singleton.mp) (Or.inl List.mem_cons_self)

theorem kills_of_just {q : Policy} (h : Just p q) : Kills Q p q :=
  h.preserves (I := Kills Q p) (fun _ x hk => hk.trans (kills_evictNode _ x))
    (fun r a b hk => hk.trans (cnt_admit r a b).kills) (.refl p)

theorem kills_evictNodes (p : Policy) : Kills Q p (evictNodes p) :=
  (mv_evictFromWindow p).toFr.kills.trans (kills_of_just (just_evictNodes p))

theorem kills_add (p : Policy) (id : Nat) : Kills Q p (add p id) := by
  have h := add_case p id
  generalize add p id = r at h ⊢
  cases h with
  | skip _ c _ => exact c.kills
  | evict _ _ c _ => exact c.kills.trans (kills_evictNode _ id)
  | link _ _ c _ f _ => exact c.kills.trans f.kills

theorem kills_updateTail (p : Policy) (id : Nat) (w : BitVec 64) : Kills Q p (updateTail p id w) :=
  updateTail_preserves (I := Kills Q p) (fun m h => h.trans m.toFr.kills) (fun _ x h => h.trans (kills_evictNode _ x)) id w
    (.of_fields rfl rfl)

theorem evicted_setNode (p : Policy) (n : Node) : (p.setNode n).evicted = p.evicted := rfl

theorem evicted_updateNode (p : Policy) (id old : Nat) : (updateNode p id old).evicted = p.evicted :=
  (evicted_setNode _ _).trans <| (req_dqUpdateNode _ _ id old).evicted.trans <|
    (cnt_discount _ old).evicted.trans (evicted_setNode p _)

theorem kills_updateNode (p : Policy) (id old : Nat) (hq : Q old) : Kills Q p (updateNode p id old) :=
  .of_kill [] (node_updateNode_old p id old) (st_updateNode p id old)
    (by rw [evicted_updateNode, List.append_nil]) nofun (Or.inr hq)

/-- the update event: first `old` dies (the table replaced it), the rest kills through the callback only -/
theorem update_steps (p : Policy) (id old : Nat) (hq : Q old) :
    ∃ p1, (p1.node old).st = .dead ∧ Kills Q p p1 ∧ Kills Q p1 (update p id old) := by
  have h := update_case p id old
  generalize update p id old = r at h ⊢
  cases h with
  | gone | stale => exact ⟨_, makeDead_dead p old, kills_makeDead p old hq, .refl _⟩
  | arrival => exact ⟨_, makeDead_dead p old, kills_makeDead p old hq, kills_add _ id⟩
  | swap => exact ⟨_, node_updateNode_old p id old, kills_updateNode p id old hq, kills_updateTail _ id _⟩

theorem kills_update (p : Policy) (id old : Nat) (hq : Q old) : Kills Q p (update p id old) :=
  have ⟨_, _, h1, h2⟩ := update_steps p id old hq
  h1.trans h2

theorem node_update_old (p : Policy) (id old : Nat) : ((update p id old).node old).st = .dead :=
  have ⟨_, hd, _, h2⟩ := update_steps (Q := (· = old)) p id old rfl
  h2.dn.dead hd

end

/-! ### `Dn`, `Ek`, `DE` operation by operation

  The relations the joint model is stated with (DESIGN.md 13.10), for add, for update and its two halves, and for the eviction
  pass: each is a projection of the operation's `kills_*` lemma, with `Q` empty, or `Q = {old}` for an update.  They are stated
  under the premises of the joint model's steps (`LInv S p`, `id ∉ S`, `id ≠ old`), which Props.C04Joint has at hand; `Kills`
  needs none of them. -/

theorem dn_evictNodes {S : List Nat} {p : Policy} (hi : LInv S p) : Dn p (evictNodes p) :=
  (kills_evictNodes (Q := fun _ => False) p).dn

theorem dn_add {S : List Nat} {p : Policy} (id : Nat) (hi : LInv S p) : Dn p (add p id) :=
  (kills_add (Q := fun _ => False) p id).dn

theorem dn_updateTail {T : List Nat} {p : Policy} (id : Nat) (w : BitVec 64) (hi : LInv T p) : Dn p (updateTail p id w) :=
  (kills_updateTail (Q := fun _ => False) p id w).dn

theorem dn_updateNode (p : Policy) (id old : Nat) (hne : id ≠ old) : Dn p (updateNode p id old) :=
  (kills_updateNode (Q := (· = old)) p id old rfl).dn

theorem dn_update {S : List Nat} {p : Policy} {id : Nat} (old : Nat) (hi : LInv S p) (hs : id ∉ S) : Dn p (update p id old) :=
  (kills_update (Q := (· = old)) p id old rfl).dn

theorem update_old_dead {S : List Nat} {p : Policy} {id : Nat} (old : Nat) (hi : LInv S p) (hs : id ∉ S) (hne : id ≠ old)
    (hal : (p.node id).st = .alive) : ((update p id old).node old).st = .dead :=
  node_update_old p id old

theorem ek_evictNodes {S : List Nat} {p : Policy} (hi : LInv S p) : Ek p (evictNodes p) :=
  (kills_evictNodes p).ek (fun _ => False.elim)

theorem ek_add {S : List Nat} {p : Policy} (id : Nat) (hi : LInv S p) : Ek p (add p id) :=
  (kills_add p id).ek (fun _ => False.elim)

theorem ek_updateTail {T : List Nat} {p : Policy} (id : Nat) (w : BitVec 64) (hi : LInv T p) : Ek p (updateTail p id w) :=
  (kills_updateTail p id w).ek (fun _ => False.elim)

theorem ek_updateNode (p : Policy) (id old : Nat) (hne : id ≠ old) (hna : (p.node old).st ≠ .alive) :
    Ek p (updateNode p id old) :=
  (kills_updateNode (Q := (· = old)) p id old rfl).ek (fun _ e => e ▸ hna)

/-- the update event, when the table has retired the replaced node: an alive node stops being alive only through the callback -/
theorem ek_update {S : List Nat} {p : Policy} {id : Nat} (old : Nat) (hi : LInv S p) (hs : id ∉ S)
    (hna : (p.node old).st ≠ .alive) : Ek p (update p id old) :=
  (kills_update (Q := (· = old)) p id old rfl).ek (fun _ e => e ▸ hna)

theorem de_evictNodes {S : List Nat} {p : Policy} (hi : LInv S p) : DE p (evictNodes p) :=
  (kills_evictNodes (Q := fun _ => False) p).de

theorem de_add {S : List Nat} {p : Policy} (id : Nat) (hi : LInv S p) : DE p (add p id) :=
  (kills_add (Q := fun _ => False) p id).de

theorem de_update {S : List Nat} {p : Policy} {id : Nat} (old : Nat) (hi : LInv S p) (hs : id ∉ S) : DE p (update p id old) :=
  (kills_update (Q := (· = old)) p id old rfl).de

end OtterVerif.Impl.Policy
