/-
  Proofs.PolicyWeight — the policy's weightedSize counter equals the sum of the weights of the linked nodes (mod 2^64,
  as in Go), in every state reachable by any order of events (Proofs.PolicyLink.Reach).
-/
import OtterVerif.Proofs.PolicyLink

namespace OtterVerif.Impl.Policy

/-- weight of a node as the uint64 the counters use -/
def wt (p : Policy) (id : Nat) : BitVec 64 := w64 (p.node id).weight

def wsum (p : Policy) (l : List Nat) : BitVec 64 := l.foldr (fun id acc => wt p id + acc) 0

@[simp] theorem wsum_nil (p : Policy) : wsum p [] = 0 := rfl
@[simp] theorem wsum_cons (p : Policy) (x : Nat) (l : List Nat) : wsum p (x :: l) = wt p x + wsum p l := rfl

theorem wsum_zero (p : Policy) (l : List Nat) (h : ∀ id ∈ l, (p.node id).weight = 0) : wsum p l = 0 := by
  induction l with
  | nil => rfl
  | cons x xs ih =>
    rw [wsum_cons, ih (fun id hid => h id (List.mem_cons_of_mem _ hid)), wt, h x List.mem_cons_self]
    rfl

theorem wsum_perm (p : Policy) {l1 l2 : List Nat} (h : l1.Perm l2) : wsum p l1 = wsum p l2 :=
  h.foldr_eq' (fun x _ y _ z => by rw [← BitVec.add_assoc, ← BitVec.add_assoc, BitVec.add_comm (wt p y)]) 0

theorem wsum_congr (p p' : Policy) {l : List Nat} (h : ∀ id, id ∈ l → wt p' id = wt p id) : wsum p' l = wsum p l := by
  induction l with
  | nil => rfl
  | cons x xs ih =>
    simp only [wsum_cons]
    rw [h x List.mem_cons_self, ih (fun id hid => h id (List.mem_cons_of_mem _ hid))]

theorem wsum_filter_ne (p : Policy) (l : List Nat) (x : Nat) (hn : l.Nodup) :
    wsum p l = (if x ∈ l then wt p x else 0) + wsum p (l.filter (· != x)) := by
  by_cases hx : x ∈ l
  · simp only [hx, ↓reduceIte]
    rw [← hn.erase_eq_filter]
    exact wsum_perm p (List.perm_cons_erase hx)
  · simp [hx, List.filter_bne_eq_self_of_not_mem hx]

theorem wsum_map_repl (p : Policy) (l : List Nat) (old n : Nat) (hn : l.Nodup) (ho : old ∈ l) :
    wsum p (l.map (repl old n)) + wt p old = wsum p l + wt p n := by
  rw [wsum_perm p (perm_map_repl old n hn ho), wsum_perm p (List.perm_cons_erase ho), wsum_cons, wsum_cons]
  ac_rfl

/-! ### the counter invariant -/

def WInv (p : Policy) : Prop := p.weightedSize = wsum p (all p)

theorem WInv.mv {p p' : Policy} (hw : WInv p) (hm : Mv p p') (hn : (all p).Nodup) : WInv p' := by
  unfold WInv at *
  rw [hm.ws, hw, wsum_congr p p' (fun id _ => congrArg w64 (hm.weight id))]
  exact (wsum_perm p (hm.perm hn)).symm

/-! ### removal -/

theorem ws_discount (p : Policy) (x : Nat) : (discount p x).weightedSize = p.weightedSize - wt p x := by
  unfold discount wt; simp only; split <;> (try split) <;> rfl

/-- writing a node's state leaves every weight as it is (about a variable `p`: with the policy an operation has built in
    its place, the `rfl` inside is slow to check) -/
theorem weight_setSt (p : Policy) (y : Nat) (s : NState) (x : Nat) :
    ((p.setNode { p.node y with st := s }).node x).weight = (p.node x).weight :=
  node_setNode_congr Node.weight p _ rfl x

theorem ws_setNode (p : Policy) (n : Node) : (p.setNode n).weightedSize = p.weightedSize := rfl

theorem makeDead_weight (p : Policy) (x id : Nat) : ((makeDead p x).node id).weight = (p.node id).weight := by
  rw [makeDead_eq, ← node_unlink p x id]
  unfold markDead
  split
  · exact weight_setSt _ x .dead id
  · rfl

theorem makeDead_ws (p : Policy) (x : Nat) :
    (makeDead p x).weightedSize = if x ∈ all p then p.weightedSize - wt p x else p.weightedSize := by
  rw [makeDead_eq, (markDead_fields _ x).2.2.2.1]
  unfold unlink
  by_cases hc : dqContains p (p.node x).qt x = true
  · rw [if_pos hc, if_pos ((contains_iff_all p _ x).mp hc), (req_dqDelete _ _ _).ws, ws_discount]
  · rw [if_neg hc, if_neg (fun hx => hc ((contains_iff_all p _ x).mpr hx))]

theorem WInv.makeDead {p : Policy} (x : Nat) (hw : WInv p) (hn : (all p).Nodup) : WInv (makeDead p x) := by
  unfold WInv at *
  rw [all_makeDead p x hn, makeDead_ws, wsum_congr p (Policy.makeDead p x) (fun id _ => by unfold wt; rw [makeDead_weight]), hw,
    wsum_filter_ne p (all p) x hn]
  by_cases hx : x ∈ all p
  · rw [if_pos hx, if_pos hx, BitVec.add_comm, BitVec.add_sub_cancel]
  · rw [if_neg hx, if_neg hx]; exact BitVec.zero_add _

theorem WInv.same {p p' : Policy} (hw : WInv p) (ha : all p' = all p) (hn : ∀ x, p'.node x = p.node x)
    (hs : p'.weightedSize = p.weightedSize) : WInv p' := by
  unfold WInv at *
  rw [hs, hw, ha]
  exact (wsum_congr p p' (fun id _ => by unfold wt; rw [hn])).symm

theorem WInv.evictNode {p : Policy} (x : Nat) (hw : WInv p) (hn : (all p).Nodup) : WInv (evictNode p x) :=
  (hw.makeDead x hn).same (all_evictNode p x) (node_evictNode p x) (by rw [evictNode_eq])

theorem ws_admit (p : Policy) (c v : Nat) : (admit p c v).1.weightedSize = p.weightedSize := by
  obtain ⟨r, e⟩ := admit_fst p c v; rw [e]

theorem WInv.admit {p : Policy} (a b : Nat) (hw : WInv p) : WInv (admit p a b).1 :=
  have c := cnt_admit p a b
  hw.same c.all c.node (ws_admit p a b)

theorem WInv.evictNodes {S : List Nat} {p : Policy} (hw : WInv p) (hi : LInv S p) : WInv (evictNodes p) := by
  have hm := mv_evictFromWindow p
  exact ((just_evictNodes p).preserves (I := fun p => LInv S p ∧ WInv p)
    (fun _ x h => ⟨h.1.evictNode x, h.2.evictNode x h.1.c⟩)
    (fun p a b h => ⟨h.1.admit a b, h.2.admit a b⟩)
    ⟨hi.mv hm, hw.mv hm hi.c⟩).2

/-! ### introduction: add -/

theorem WInv.link {p p' : Policy} {id : Nat} (hw : WInv p) (hp : (all p').Perm (id :: all p))
    (hn : ∀ x, (p'.node x).weight = (p.node x).weight) (hs : p'.weightedSize = p.weightedSize + wt p id) : WInv p' := by
  unfold WInv at *
  rw [hs, wsum_perm p' hp, wsum_cons, wsum_congr p p' (fun x _ => by unfold wt; rw [hn]), hw]
  have : wt p' id = wt p id := by unfold wt; rw [hn]
  rw [this]
  exact BitVec.add_comm _ _

theorem WInv.add {S : List Nat} {p : Policy} {id : Nat} (hw : WInv p) (hi : LInv S p) : WInv (add p id) := by
  have h := add_case p id
  generalize Policy.add p id = r at h ⊢
  cases h with
  | skip _ c e => exact hw.same c.all c.node e
  | evict _ _ c e => exact (hw.same c.all c.node e).evictNode id (hi.cnt c).c
  | link _ _ c e f hp =>
    exact hw.link (c.all ▸ hp) (fun x => (f.weight x).trans (congrArg Node.weight (c.node x))) (f.ws.trans e)

/-! ### introduction: update -/

theorem updateNode_weight (p : Policy) (id old x : Nat) : ((updateNode p id old).node x).weight = (p.node x).weight := by
  rw [updateNode, weight_setSt, (req_dqUpdateNode _ _ id old).node, (cnt_discount _ old).node,
    node_setNode_congr Node.weight p _ rfl]

theorem updateNode_ws (p : Policy) (id old : Nat) : (updateNode p id old).weightedSize = p.weightedSize - wt p old := by
  rw [updateNode, ws_setNode, (req_dqUpdateNode _ _ id old).ws, ws_discount, ws_setNode, wt, wt,
    node_setNode_congr Node.weight p _ rfl]

/-- the invariant of a state with `w` counted on top, spelt out (about a variable `p`, for the reason given at `weight_setSt`) -/
theorem winv_count_iff {p : Policy} {w : BitVec 64} :
    WInv { p with weightedSize := p.weightedSize + w } ↔ p.weightedSize + w = wsum p (all p) := Iff.rfl

/-- after updateNode the counter lacks exactly the new node's weight -/
theorem winv_updateNode {p : Policy} {id old : Nat} (hw : WInv p) (hn : (all p).Nodup) (ho : old ∈ all p) :
    WInv { updateNode p id old with weightedSize := (updateNode p id old).weightedSize + wt p id } := by
  rw [winv_count_iff, all_updateNode p id old hn, updateNode_ws p id old,
    wsum_congr p (updateNode p id old) (fun x _ => by unfold wt; rw [updateNode_weight])]
  unfold WInv at hw
  rw [hw, BitVec.sub_add_comm, ← wsum_map_repl p (all p) old id hn ho, BitVec.add_sub_cancel]

theorem winv_updateTail {S : List Nat} {p : Policy} (id : Nat) (w : BitVec 64) (hi : LInv S p)
    (hw : WInv { p with weightedSize := p.weightedSize + w }) : WInv (updateTail p id w) :=
  (updateTail_preserves (I := fun p => LInv S p ∧ WInv p) (fun m h => ⟨h.1.mv m, h.2.mv m h.1.c⟩)
    (fun _ x h => ⟨h.1.evictNode x, h.2.evictNode x h.1.c⟩) id w ⟨hi.congr rfl rfl rfl rfl, hw⟩).2

theorem WInv.update {S : List Nat} {p : Policy} {id : Nat} (old : Nat) (hw : WInv p) (hi : LInv S p) (hs : id ∉ S) :
    WInv (update p id old) := by
  have h := update_case p id old
  generalize Policy.update p id old = r at h ⊢
  have w1 := hw.makeDead old hi.c
  cases h with
  | gone | stale => exact w1
  | arrival => exact w1.add (hi.delete old)
  | swap hnd ho => exact winv_updateTail id _ (hi.updateNode hs ho hnd) (winv_updateNode hw hi.c ho)

/-! ### the table's actions -/

theorem WInv.setNode {p : Policy} (n : Node) (hw : WInv p) (h : n.id ∈ all p → n.weight = (p.node n.id).weight) :
    WInv (p.setNode n) := by
  unfold WInv at *
  show p.weightedSize = wsum _ (all p)
  rw [hw]
  refine (wsum_congr p _ (fun x hx => ?_)).symm
  unfold wt
  by_cases e : x = n.id
  · subst e; rw [node_setNode_self, h hx]
  · rw [node_setNode_other _ _ _ e]

theorem WInv.mkNode {S : List Nat} {p : Policy} (id key w : Nat) (st : NState) (hw : WInv p) (hi : LInv S p) (hs : id ∉ S) :
    WInv (mkNode p id key w st) :=
  hw.setNode _ (fun h => absurd (hi.a id h).1 hs)

theorem WInv.retire {p : Policy} (id : Nat) (hw : WInv p) : WInv (retire p id) := by
  unfold Policy.retire
  simp only
  split
  · exact hw.setNode _ (fun _ => rfl)
  · exact hw

/-! ### every reachable state -/

theorem reach_winv {S : List Nat} {p : Policy} (h : Reach S p) : WInv p := by
  induction h with
  | init p e0 e1 e2 e3 =>
    have : all p = [] := by unfold all; rw [e0, e1, e2]; rfl
    unfold WInv; rw [this, e3]; rfl
  | mk id key w st hr hs ih => exact ih.mkNode id key w st (reach_inv hr) hs
  | retire id _ ih => exact ih.retire id
  | add id hr hs ih => exact ih.add (reach_inv hr)
  | update id old hr hs ih => exact ih.update old (reach_inv hr) hs
  | delete id hr ih => exact ih.makeDead id (reach_inv hr).c
  | access id hr ih => exact ih.mv (mv_access _ id) (reach_inv hr).c
  | evict hr ih => exact ih.evictNodes (reach_inv hr)
  | climb hr ih => exact ih.mv (mv_climb _) (reach_inv hr).c
  | @setmax _ p m hr ih =>
    have h := setMaximumSize_fields p m
    exact ih.same (all_congr h.2.1 h.2.2.1 h.2.2.2.1) (node_congr h.1) h.2.2.2.2.1

end OtterVerif.Impl.Policy
