/-
  C13 — Expired entries are swept and reported within one timer tick.

  Model: Impl.Wheel (transcription of internal/expiration/variable.go), tied to the code by UNIT-wheel (exact bucket
  contents in link order after every Add/Delete/DeleteExpired; constants reported by the code and compared) and judged on
  every sweep by the C13 oracle (no scheduled node overdue by a full tick, nothing expired early).

  One wheel level is treated for all deadlines, clock values and jumps, generic in the tick size S and the number of
  buckets B; the five levels of the code are the instances (2^30,64) (2^36,64) (2^42,32) (2^47,4) (2^49,1).  An already due
  deadline (behind the wheel's time: the write raced with a later sweep) is scheduled for the current tick, whose bucket is
  the first one the next sweep visits (the race clause; the subject of finding F8), and the int64 → wheel-time map preserves
  the order, negative clock readings included (the subject of finding F14).
  The sweep theorem, lifted through the nested bucket loops of DeleteExpired (Proofs.WheelSweep): for every wheel
  reachable by Add / Delete / DeleteExpired with a monotone clock (any deadlines, any jumps), every scheduled timer event is
  correctly placed for the wheel's time — the right level, the right bucket, level 0 holding the current and later ticks,
  higher levels only later ticks; DeleteExpired(T) re-establishes that for T.  Hence after a sweep at T no scheduled event
  lies in a tick before T's: an entry whose deadline and whose Add both lie more than one tick before T has been handed to
  expireNode.
-/
import OtterVerif.Impl.Wheel
import OtterVerif.Proofs.WheelSweep
import OtterVerif.Proofs.WheelGen

namespace OtterVerif.Props.C13
open OtterVerif.Impl.Wheel

/-! ### one level of the wheel, generic in tick size `S` and bucket count `B` -/

/-- a deadline closer than `S*B` is at most `B` ticks ahead of the wheel's time -/
theorem c13_window_upper (S B t d : Nat) (hS : 0 < S) (h : t ≤ d) (hlt : d - t < S * B) : d / S ≤ t / S + B := by
  have : d < t + S * B := by omega
  calc d / S ≤ (t + S * B) / S := Nat.div_le_div_right (by omega)
    _ = t / S + B := by rw [Nat.add_mul_div_left _ _ hS]

theorem c13_window_lower (S t d : Nat) (h : t ≤ d) : t / S ≤ d / S := Nat.div_le_div_right h

/-- slot `x` is visited by a sweep of this level from time `t` to time `T` (deleteExpiredFromBucket) -/
def Visited (S B t T x : Nat) : Prop := ∃ k, k < min (T / S - t / S + 1) B ∧ x = (t / S % B + k) % B

/-- the bucket of every tick between the previous and the current tick is visited -/
theorem c13_visit (S B t T e : Nat) (hB : 0 < B) (h1 : t / S ≤ e / S) (h2 : e / S ≤ T / S) : Visited S B t T (e / S % B) :=
  visited_of_between B (t / S) (T / S) (e / S) hB h1 h2

/-- a bucket the sweep does not visit holds, within the window, only ticks after `T` -/
theorem c13_unvisited_is_future (S B t T e : Nat) (hB : 0 < B) (h1 : t / S ≤ e / S)
    (hnv : ¬ Visited S B t T (e / S % B)) : T / S < e / S :=
  Nat.lt_of_not_le fun h2 => hnv (c13_visit S B t T e hB h1 h2)

/-- the first bucket a sweep visits is the one of the wheel's current tick -/
theorem c13_current_tick_first (S B t T : Nat) (hB : 0 < B) (hadv : t / S < T / S) : Visited S B t T (t / S % B) :=
  c13_visit S B t T t hB (Nat.le_refl _) (Nat.le_of_lt hadv)

/-- what is behind by a tick is behind; what the wheel expires (`deadline < T`) is never early -/
theorem c13_tick_behind (S d T : Nat) (h : d / S < T / S) : d < T := Nat.lt_of_div_lt_div h

/-- more than one tick overdue means the tick is strictly behind -/
theorem c13_overdue_tick (S d T : Nat) (hS : 0 < S) (h : d + S ≤ T) : d / S < T / S := div_lt_of_add_le hS h

/-! ### the code's levels and `findBucket` -/

theorem spans_are_ticks_times_buckets :
    span 1 = 2 ^ shift 0 * buckets 0 ∧ span 2 = 2 ^ shift 1 * buckets 1 ∧
    span 3 = 2 ^ shift 2 * buckets 2 ∧ span 4 = 2 ^ shift 3 * buckets 3 := by decide

/-- the race clause: a deadline already behind the wheel's time is scheduled in the bucket of the current tick at level 0 -/
theorem c13_due_goes_to_current_tick (t d : Nat) (h : d < t) : findBucket t d = (0, (t >>> shift 0) % buckets 0) := by
  unfold findBucket
  have : (0 : Nat) < span 1 := by decide
  simp [h, Nat.add_sub_cancel_left, this]

/-- level 0 takes every deadline closer than 64 ticks, in the bucket of its own tick -/
theorem c13_level0 (t d : Nat) (h : t ≤ d) (hd : d < two64) (hc : d - t < span 1) :
    findBucket t d = (0, (d >>> shift 0) % buckets 0) := by
  unfold findBucket
  simp [Nat.not_lt.mpr h, delta_eq d t h hd, hc]

theorem c13_wheelTime_lt (a b : Int) (ha : -9223372036854775808 ≤ a) (hb : b ≤ 9223372036854775807) (h : a < b) :
    wheelTime a < wheelTime b := by
  unfold wheelTime
  omega

/-- int64 clock readings map to the wheel's time line in order (negative readings before positive ones) -/
theorem c13_wheelTime_mono (a b : Int) (ha : -9223372036854775808 ≤ a) (hb : b ≤ 9223372036854775807) (h : a ≤ b) :
    wheelTime a ≤ wheelTime b :=
  (Int.lt_or_eq_of_le h).elim (fun hl => Nat.le_of_lt (c13_wheelTime_lt a b ha hb hl)) (fun e => e ▸ Nat.le_refl _)

/-! ### The sweep, for every reachable wheel -/

/-- the placement invariant holds in every reachable wheel -/
theorem c13_wheel_invariant {w : Wheel} (h : WReach w) : InvAt w.time w := (wreach_inv h).2

/-- after DeleteExpired(T) every event still scheduled lies in T's tick or a later one (on the 2^30 ns time line): nothing that
    is overdue by a full tick survives a sweep -/
theorem c13_nothing_overdue_after_sweep {w : Wheel} (h : WReach w) (T : Nat) (hle : w.time ≤ T) (hT : T < two64)
    (l s : Nat) (x : Ent) (hx : x ∈ (deleteExpired w T).1.bucket l s) : T >>> 30 ≤ x.e >>> 30 :=
  good_not_overdue T l s x ((deleteExpired_inv w T hT hle (wreach_inv h).2).2.2 l s x hx)

/-- in the terms of C13: an event whose deadline lies more than one tick before T and that was scheduled (its Add, i.e. the
    write's maintenance) more than one tick before T is not in the wheel after the sweep at T -/
theorem c13_overdue_is_gone {w : Wheel} (h : WReach w) (T : Nat) (hle : w.time ≤ T) (hT : T < two64)
    (l s : Nat) (x : Ent) (hover : x.e + 2 ^ 30 ≤ T) : x ∉ (deleteExpired w T).1.bucket l s := fun hx =>
  Nat.lt_irrefl _ (Nat.lt_of_lt_of_le (shr_lt_of_add_le hover) (c13_nothing_overdue_after_sweep h T hle hT l s x hx))

/-- the time from which an event counts as scheduled is its deadline, or the wheel's time at its Add if that is later -/
theorem c13_effective_time {w : Wheel} (h : WReach w) (l s : Nat) (x : Ent) (hx : x ∈ w.bucket l s) :
    x.d ≤ x.e ∧ x.e < two64 :=
  ⟨((wreach_inv h).2.2 l s x hx).de, ((wreach_inv h).2.2 l s x hx).bd⟩

/-! ### The model's arithmetic is the code's (regenerated from internal/expiration/variable.go on every run)

The tables `buckets`, `spans`, `shift` with their initialisers, `wheelTime`/`clockTime` and every pure right-hand side and
condition of findBucket / DeleteExpired / deleteExpiredFromBucket are translated into `Gen.Wheel` over `BitVec 64`; the
theorems below relate them, for all 64-bit values, to the natural-number model the sweep theorem is about.  A change to a
constant, a shift, a mask, a comparison or an operand in those functions breaks one of these. -/

/-- the three tables built at start-up are the model's levels: (2^30,64) (2^36,64) (2^42,32) (2^47,4) (2^49,1) -/
theorem c13_gen_tables :
    Gen.Wheel.buckets.map BitVec.toNat = nBuckets ∧ Gen.Wheel.shift.map BitVec.toNat = shifts ∧
    Gen.Wheel.spans.map BitVec.toNat = spans :=
  ⟨Proofs.WheelGen.buckets_eq, Proofs.WheelGen.shift_eq, Proofs.WheelGen.spans_eq⟩

/-- findBucket as the code computes it (clamp of a due deadline, wrapping subtraction, comparison against spans[i+1], shift,
    mask) picks the model's level and slot, for every wheel time and every deadline -/
theorem c13_gen_findBucket (time d : BitVec 64) :
    Proofs.WheelGen.findBucketG time d = findBucket time.toNat d.toNat := by
  unfold Proofs.WheelGen.findBucketG findBucket Gen.Wheel.fb_due Gen.Wheel.fb_clamped Gen.Wheel.fb_duration
  rw [show Gen.Wheel.fb_length (Bv.tblLen Gen.Wheel.buckets) = 4#64 from rfl, BitVec.ult_eq_decide]
  simp only [decide_eq_true_eq]
  rw [Proofs.WheelGen.fbGo_eq, Bv.toNat_sub_wrap, apply_ite BitVec.toNat]
  rfl

/-- the code's map from clock readings to the wheel's time line is the model's, and clockTime undoes it -/
theorem c13_gen_wheelTime (t : Int) : (Gen.Wheel.wheelTime (BitVec.ofInt 64 t)).toNat = wheelTime t := by
  have h := Proofs.WheelGen.toNat_wheelTime (BitVec.ofInt 64 t)
  rw [BitVec.toInt_ofInt, Int.bmod_def] at h
  unfold wheelTime
  omega

theorem c13_gen_clockTime (t : BitVec 64) : Gen.Wheel.clockTime (Gen.Wheel.wheelTime t) = t :=
  Proofs.WheelGen.clockTime_wheelTime t

/-- DeleteExpired: five levels; per level the tick numbers are `time >>> shift i`, their wrapping difference is the
    model's `delta`, and the loop stops at the first level whose tick did not advance -/
theorem c13_gen_levels (pt ct : BitVec 64) (i : Nat) (hi : i < 5) :
    Gen.Wheel.de_loop (BitVec.ofNat 64 i) = true ∧
    (Gen.Wheel.de_previousTicks (BitVec.ofNat 64 i) pt).toNat = pt.toNat >>> shift i ∧
    (Gen.Wheel.de_currentTicks ct (BitVec.ofNat 64 i)).toNat = ct.toNat >>> shift i ∧
    (∀ a b : BitVec 64, (Gen.Wheel.de_delta a b).toNat = (a.toNat + two64 - b.toNat) % two64) ∧
    (∀ dl : BitVec 64, Gen.Wheel.de_stop dl = (dl.toNat == 0)) :=
  ⟨(Proofs.WheelGen.de_loop_eq i (by omega)).trans (decide_eq_true hi), (Proofs.WheelGen.de_ticks_eq pt ct i hi).1,
    (Proofs.WheelGen.de_ticks_eq pt ct i hi).2, Proofs.WheelGen.de_delta_eq, Proofs.WheelGen.de_stop_eq⟩

theorem c13_gen_levels_end : Gen.Wheel.de_loop (BitVec.ofNat 64 5) = false :=
  Proofs.WheelGen.de_loop_eq 5 (by decide)

/-- deleteExpiredFromBucket: start slot, number of visited buckets and visited slot are the model's
    `prevTicks % b`, `min (delta+1) b`, `(start+k) % b` -/
theorem c13_gen_bucket_walk (pt j delta : BitVec 64) (i : Nat) (hi : i < 5) (hd : delta.toNat + 1 < two64) :
    (Gen.Wheel.db_start (Gen.Wheel.db_mask (BitVec.ofNat 64 i)) pt).toNat = pt.toNat % buckets i ∧
    (Gen.Wheel.db_steps delta (BitVec.ofNat 64 i)).toNat = min (delta.toNat + 1) (buckets i) ∧
    (Gen.Wheel.db_slot j (Gen.Wheel.db_mask (BitVec.ofNat 64 i))).toNat = j.toNat % buckets i :=
  ⟨Proofs.WheelGen.db_start_eq pt i hi, Proofs.WheelGen.db_steps_eq delta i hi hd, Proofs.WheelGen.db_slot_eq j i hi⟩

/-- a node of a visited bucket is handed to expireNode iff its deadline lies strictly before the clock reading the wheel
    was moved to (signed comparison on the clock's own line), and expireNode is told that very reading -/
theorem c13_gen_expired (e now : BitVec 64) :
    Gen.Wheel.db_expired e (Gen.Wheel.de_currentTime now) = BitVec.slt e now ∧
    Gen.Wheel.db_reportedNow (Gen.Wheel.de_currentTime now) = now :=
  ⟨Proofs.WheelGen.db_expired_signed e now, Proofs.WheelGen.db_reportedNow_eq now⟩

/-! ### Non-vacuity -/
example : Proofs.WheelGen.findBucketG (Gen.Wheel.wheelTime 5#64) (Gen.Wheel.wheelTime 4000000000#64) = (0, 3) := by decide
example : Visited (2 ^ 30) 64 0 (5 * 2 ^ 30) (3 % 64) := by
  have := c13_visit (2 ^ 30) 64 0 (5 * 2 ^ 30) (3 * 2 ^ 30) (by decide) (by decide) (by decide)
  simpa using this
example : findBucket 1000 5 = (0, 0) := by decide

end OtterVerif.Props.C13
