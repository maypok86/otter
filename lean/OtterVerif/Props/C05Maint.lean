/-
  C05 / C13 / C06 — the glue between write events and the two policies (runTask, onAccess) is what the joint models assume.

  Impl.Maint gives runTask / onAccess as the lists of calls they make on the size policy, the timer wheel and the deletion
  listener.  Its guards are the regenerated conditions of cache_impl.go, its switch labels the task reasons of task.go.  For a
  cache with both policies on and a node alive at replay time, the calls are those the steps of Proofs.CacheJoint (policy add /
  update / delete / access, before the eviction pass) and of Proofs.WheelJoint (wheel Add / Delete; a deadline move = Delete then
  Add) consist of — as lists of calls, and, interpreted on a pair (Impl.Policy state, Impl.Wheel state) by `interp`, as state
  changes.
-/
import OtterVerif.Impl.Maint
import OtterVerif.Gen.CacheWrite
import OtterVerif.Impl.Policy
import OtterVerif.Impl.Wheel

namespace OtterVerif.Props.C05Maint
open OtterVerif OtterVerif.Impl.Maint

/-- the guards of the model are the code's (regenerated on every run) -/
theorem c05_gen_runTask_guards (withExp withEv alive : Bool) :
    Gen.CacheWrite.cache_runTask_c1 withExp alive = (withExp && alive) ∧
    Gen.CacheWrite.cache_runTask_c2 withEv = withEv ∧
    Gen.CacheWrite.cache_runTask_c3 withExp = withExp ∧
    Gen.CacheWrite.cache_runTask_c4 alive = alive ∧
    Gen.CacheWrite.cache_runTask_c5 withEv = withEv ∧
    Gen.CacheWrite.cache_runTask_c6 withExp = withExp ∧
    Gen.CacheWrite.cache_runTask_c7 withEv = withEv := ⟨rfl, rfl, rfl, rfl, rfl, rfl, rfl⟩

/-- the three branches of runTask are selected by the three task reasons, in the order add, update, delete -/
theorem c05_gen_runTask_dispatch (r : Reason) :
    Gen.CacheWrite.cache_runTask_s0 r.code = decide (r = .add) ∧
    Gen.CacheWrite.cache_runTask_s1 r.code = decide (r = .update) ∧
    Gen.CacheWrite.cache_runTask_s2 r.code = decide (r = .delete) := by
  cases r <;> refine ⟨?_, ?_, ?_⟩ <;> decide

/-- conditions #0 and #2 of onAccess; #1 (`c.withExpiration && !node.Equals(n.NextExp(), nil)`, the model's
    `f.withExpiration && linked`) is not stated here: it is held by Pin.CacheWrite.cache_onAccess_c1_pin alone -/
theorem c05_gen_onAccess_guards (withExp withEv notLinkedNil alive : Bool) :
    Gen.CacheWrite.cache_onAccess_c0 withEv = withEv ∧
    Gen.CacheWrite.cache_onAccess_c2 alive = alive := ⟨rfl, rfl⟩

/-- with both policies on and the node alive at replay time (same-goroutine executor), the calls are the joint models' steps -/
theorem c05_calls_are_joint_steps (n old : Nat) :
    runTask ⟨true, true⟩ .add n old true = [.wheelAdd n, .policyAdd n] ∧
    runTask ⟨true, true⟩ .update n old true = [.wheelDelete old, .wheelAdd n, .policyUpdate n old, .notifyDeletion old] ∧
    runTask ⟨true, true⟩ .delete n old true = [.wheelDelete n, .policyDelete n, .notifyDeletion n] ∧
    onAccess ⟨true, true⟩ n true true = [.policyAccess n, .wheelDelete n, .wheelAdd n] := ⟨rfl, rfl, rfl, rfl⟩

/-- C06: the replay of an update or a delete event calls OnDeletion exactly once, for the removed node; an add never does -/
theorem c06_replay_reports_once (f : Flags) (r : Reason) (n old : Nat) (alive : Bool) :
    ((runTask f r n old alive).filter (fun c => match c with | .notifyDeletion _ => true | _ => false)) =
      (match r with | .add => [] | .update => [.notifyDeletion old] | .delete => [.notifyDeletion n]) := by
  cases r <;> cases f with | mk a b => cases a <;> cases b <;> cases alive <;> rfl

/-- C13 / C05: a node that is no longer alive when its event is replayed is never scheduled in the timer wheel -/
theorem c13_dead_node_not_scheduled (f : Flags) (r : Reason) (n old : Nat) :
    Call.wheelAdd n ∉ runTask f r n old false ∧ ∀ linked, Call.wheelAdd n ∉ onAccess f n linked false := by
  constructor
  · cases r <;> cases f with | mk a b => cases a <;> cases b <;> simp [runTask]
  · intro linked; cases f with | mk a b => cases a <;> cases b <;> cases linked <;> simp [onAccess]

/-- C05: whatever is unscheduled from the wheel by a replay is the replaced / removed node, never the new one -/
theorem c05_only_old_unscheduled (f : Flags) (n old : Nat) (alive : Bool) (h : n ≠ old) :
    Call.wheelDelete n ∉ runTask f .update n old alive ∧ Call.wheelDelete n ∉ runTask f .add n old alive := by
  constructor
  · cases f with | mk a b =>
      cases a <;> cases b <;> cases alive <;> simp [runTask, h]
  · cases f with | mk a b =>
      cases a <;> cases b <;> cases alive <;> simp [runTask]

/-! ### the calls, interpreted on Impl.Policy and Impl.Wheel, are the state changes the joint models use -/

/-- what a call does to the pair (size policy, timer wheel); `dl n` = the deadline node n carries -/
def interp (dl : Nat → Nat) (s : Impl.Policy.Policy × Impl.Wheel.Wheel) : Call → Impl.Policy.Policy × Impl.Wheel.Wheel
  | .wheelAdd n => (s.1, Impl.Wheel.add s.2 n (dl n))
  | .wheelDelete n => (s.1, Impl.Wheel.delete s.2 n)
  | .policyAdd n => (Impl.Policy.add s.1 n, s.2)
  | .policyUpdate n old => (Impl.Policy.update s.1 n old, s.2)
  | .policyDelete n => (Impl.Policy.delete s.1 n, s.2)
  | .policyAccess n => (Impl.Policy.access s.1 n, s.2)
  | .notifyDeletion _ => s

/-- replaying an add / update / delete event, or a drained read, changes the size policy exactly as the steps of
    Proofs.CacheJoint assume (`add`, `update`, `delete`, `access` — before the eviction pass) and the timer wheel exactly as the
    steps of Proofs.WheelJoint assume (Add; Delete old then Add new; Delete; a deadline move = Delete then Add) -/
theorem c05_replay_is_joint_step (dl : Nat → Nat) (p : Impl.Policy.Policy) (w : Impl.Wheel.Wheel) (n old : Nat) :
    (runTask ⟨true, true⟩ .add n old true).foldl (interp dl) (p, w) = (Impl.Policy.add p n, Impl.Wheel.add w n (dl n)) ∧
    (runTask ⟨true, true⟩ .update n old true).foldl (interp dl) (p, w)
      = (Impl.Policy.update p n old, Impl.Wheel.add (Impl.Wheel.delete w old) n (dl n)) ∧
    (runTask ⟨true, true⟩ .delete n old true).foldl (interp dl) (p, w) = (Impl.Policy.delete p n, Impl.Wheel.delete w n) ∧
    (onAccess ⟨true, true⟩ n true true).foldl (interp dl) (p, w)
      = (Impl.Policy.access p n, Impl.Wheel.add (Impl.Wheel.delete w n) n (dl n)) := ⟨rfl, rfl, rfl, rfl⟩

/-- without an expiration policy the wheel is never touched; without a size policy the size policy never is -/
theorem c05_policies_independent (dl : Nat → Nat) (p : Impl.Policy.Policy) (w : Impl.Wheel.Wheel) (r : Reason) (n old : Nat)
    (alive : Bool) :
    ((runTask ⟨false, true⟩ r n old alive).foldl (interp dl) (p, w)).2 = w ∧
    ((runTask ⟨true, false⟩ r n old alive).foldl (interp dl) (p, w)).1 = p := by
  cases r <;> cases alive <;> exact ⟨rfl, rfl⟩

end OtterVerif.Props.C05Maint
