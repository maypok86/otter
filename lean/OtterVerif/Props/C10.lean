/-
  C09 / C10 / C11 — what the completion of a load does (Spec.finishCall), for EVERY state and outcome.

  C10: a successful load caches the value; a failed load leaves the cache unchanged (apart from the refresh
       deadline of a failed reload); a not-found result caches nothing and removes an existing entry.
  C09: the outcome is installed (or the entry removed) only if the call is still the registered one; every explicit
       write, invalidation or automatic removal of the key unregisters it — so a load never overwrites a newer write.
  C11: a failed reload keeps the value and its expiration; a not-found reload removes it.
-/
import OtterVerif.Proofs.MapLemmas
import OtterVerif.Proofs.BulkShape
import OtterVerif.Props.C20

namespace OtterVerif.Props.C10
open OtterVerif OtterVerif.Spec

/-! ### C09: installation only by the registered call -/

/-- a superseded (unregistered, non-volunteered) call never changes which values are cached -/
theorem c09_no_stale_install (c : Cfg) (s : State) (k cid : Nat) (r : Bool) (v : Nat)
    (h : s.inflightOf k ≠ some cid) :
    (finishCall c s k cid r false (.ok v)).1.m = s.m ∧ (finishCall c s k cid r false (.ok v)).2 = [] ∧
    (finishCall c s k cid r false (.notFound v)).1.m = s.m ∧ (finishCall c s k cid r false (.notFound v)).2 = [] := by
  unfold finishCall
  have hb : (s.inflightOf k == some cid) = false := by
    simp only [beq_eq_false_iff_ne, ne_eq]; exact h
  simp [hb]

/-- every explicit write unregisters the load in flight for that key … -/
theorem c09_set_unregisters (c : Cfg) (s : State) (k v : Nat) : (Spec.set c s k v).1.inflightOf k = none :=
  inflightOf_clear_self s k  -- the write starts from `s.clearInflight k` and changes the entries only

theorem c09_invalidate_unregisters (s : State) (k : Nat) : (invalidate s k).1.inflightOf k = none := by
  unfold invalidate State.inflightOf
  rw [remove_inflight]
  exact inflightOf_clear_self s k

theorem c09_compute_write_unregisters (c : Cfg) (s : State) (k v : Nat) :
    (computeStep c s k (.write v)).1.inflightOf k = none :=
  inflightOf_clear_self s k

theorem c09_compute_invalidate_unregisters (c : Cfg) (s : State) (k : Nat) :
    (computeStep c s k .invalidate).1.inflightOf k = none := by
  unfold computeStep State.inflightOf
  rw [remove_inflight]
  exact inflightOf_clear_self s k

/-- … and so does an automatic removal of the key -/
theorem c09_evict_unregisters (c : Cfg) (s s' : State) (ev : Event) (h : evict c s ev = some s') :
    s'.inflightOf ev.key = none := by
  obtain ⟨e, _, _, _, rfl⟩ := evict_some c s s' ev h
  exact inflightOf_clear_self _ _

/-- the composed statement: a Set that falls between registration and completion wins -/
theorem c09_write_during_load_wins (c : Cfg) (s : State) (k cid v w : Nat) (r : Bool) :
    let s1 := (startCall s k cid).1
    let s2 := (Spec.set c s1 k v).1
    (finishCall c s2 k cid r false (.ok w)).1.m = s2.m := by
  intro s1 s2
  have : s2.inflightOf k ≠ some cid := by
    rw [show s2.inflightOf k = none from c09_set_unregisters c s1 k v]; simp
  exact (c09_no_stale_install c s2 k cid r w this).1

/-! ### C10: outcomes -/

/-- a successful load by the registered call caches exactly the loaded value -/
theorem c10_ok_caches (c : Cfg) (s : State) (k cid v : Nat) (r : Bool) (h : s.inflightOf k = some cid) :
    ((finishCall c s k cid r false (.ok v)).1.phys k).map (·.val) = some v := by
  unfold finishCall
  simp only [h, beq_self_eq_true, Bool.or_true, ↓reduceIte, phys_write, Option.map_some]

/-- a failed load leaves every cached value and every expiration deadline unchanged and reports nothing -/
theorem c10_err_keeps (c : Cfg) (s : State) (k cid v k' : Nat) (r fake : Bool) :
    ((finishCall c s k cid r fake (.err v)).1.phys k').map (fun e => (e.val, e.exp)) =
      (s.phys k').map (fun e => (e.val, e.exp)) ∧ (finishCall c s k cid r fake (.err v)).2 = [] := by
  refine ⟨?_, rfl⟩
  obtain ⟨i, hi⟩ := unregister_eq s k cid
  unfold finishCall
  rw [hi]
  cases r
  · rfl
  · show ((applyReloadFailure c _ k).phys k').map _ = _
    rw [phys_applyReloadFailure]
    split
    · subst k'; exact Option.map_map ..
    · rfl

/-- a not-found result of the registered call caches nothing and removes an existing entry -/
theorem c10_notfound_removes (c : Cfg) (s : State) (k cid v : Nat) (r : Bool) (h : s.inflightOf k = some cid) :
    (finishCall c s k cid r false (.notFound v)).1.phys k = none := by
  unfold finishCall
  simp only [h, beq_self_eq_true, Bool.or_true, ↓reduceIte, phys_remove]

/-- the completion of a load touches no other key -/
theorem c10_other_keys (c : Cfg) (s : State) (k cid k' : Nat) (r fake : Bool) (o : LoadOutcome) (hk : k' ≠ k) :
    (finishCall c s k cid r fake o).1.phys k' = s.phys k' := by
  obtain ⟨i, hi⟩ := unregister_eq s k cid
  unfold finishCall
  rw [hi]
  -- whichever branch is taken, `write`, `remove` and `applyReloadFailure` leave the key `k' ≠ k` alone
  cases o <;>
    simp only [apply_ite Prod.fst, apply_ite (State.phys · k'), phys_write, phys_remove, phys_applyReloadFailure, if_neg hk,
      ite_self] <;> rfl

/-- statistics: each loader invocation counts once; not-found is a success (C20) -/
theorem c10_load_counted_once (s : State) (o : LoadOutcome) :
    (recordLoad s o).stats.loadOk + (recordLoad s o).stats.loadFail = s.stats.loadOk + s.stats.loadFail + 1 :=
  (C20.c20_load_counts_one s o).1

/-! ### C08 (sequential part): single flight — a second registration for the same key is refused -/
theorem c08_single_flight (s : State) (k cid cid' : Nat) :
    (startCall (startCall s k cid).1 k cid').2 = false := by
  unfold startCall
  cases h : s.inflightOf k with
  | some x => simp [h]
  | none => simp [State.inflightOf]  -- the record just made is found first

/-! ### Non-vacuity -/
def e1 : Entry := { val := 7, weight := 1, exp := 500, ref := 200 }
def s1 : State := { now := 100, m := [(1, e1)], inflight := [(1, 5)] }
example : s1.inflightOf 1 = some 5 := by decide
example : ((finishCall {} s1 1 5 true false (.ok 9)).1.phys 1).map (·.val) = some 9 := by decide
example : ((finishCall {} (Spec.set {} s1 1 8).1 1 5 true false (.ok 9)).1.phys 1).map (·.val) = some 8 := by decide

/-! ### The shape of BulkGet (Spec.Bulk — the functions the judge uses for the expected loader keys and the expected result) -/
section bulk
open Proofs.BulkShape

/-- every requested key is looked up exactly once and classified as a hit or as a miss; nothing else is -/
theorem c10_bulk_request_partitioned (c : Cfg) (s : State) (ks : List Nat) :
    (keysOf (bulkPlan c s ks)).Nodup ∧ ∀ k, k ∈ keysOf (bulkPlan c s ks) ↔ k ∈ ks :=
  plan_partition c s ks

/-- the loader is invoked for the missing keys only, each once -/
theorem c10_bulk_loader_keys (c : Cfg) (s : State) (ks : List Nat) :
    (bulkPlan c s ks).misses.Nodup ∧ ∀ k, k ∈ (bulkPlan c s ks).misses → k ∈ ks := by
  obtain ⟨hn, hm⟩ := plan_partition c s ks
  unfold keysOf at hn hm
  exact ⟨(List.nodup_append.mp hn).2.1, fun k hk => (hm k).mp (List.mem_append.mpr (Or.inr hk))⟩

/-- BulkGet returns requested keys only, each distinct key at most once, for EVERY loader answer (full, partial, extra keys,
    empty, duplicates) -/
theorem c10_bulk_result_shape (c : Cfg) (s : State) (ks : List Nat) (kvs : List (Nat × Nat)) :
    (∀ q, q ∈ bulkReturn (bulkPlan c s ks) kvs → q.1 ∈ ks) ∧ ((bulkReturn (bulkPlan c s ks) kvs).map (·.1)).Nodup := by
  obtain ⟨hn, hm⟩ := plan_partition c s ks
  have hs := return_keys (bulkPlan c s ks) kvs
  exact ⟨fun q h => (hm q.1).mp (hs.subset (List.mem_map_of_mem h)), hn.sublist hs⟩

/-- every returned value was cached at the lookup or is what the loader supplied for a key it was asked for -/
theorem c10_bulk_result_source (c : Cfg) (s : State) (ks : List Nat) (kvs : List (Nat × Nat)) (q : Nat × Nat)
    (h : q ∈ bulkReturn (bulkPlan c s ks) kvs) :
    q ∈ (bulkPlan c s ks).hits ∨ (q.1 ∈ (bulkPlan c s ks).misses ∧ ∃ q', q' ∈ kvs ∧ q'.1 = q.1 ∧ q'.2 = q.2) :=
  (List.mem_append.mp h).imp_right supplied_mem

/-- a missing key the loader did not supply is absent from the result -/
theorem c10_bulk_absent_stays_absent (c : Cfg) (s : State) (ks : List Nat) (kvs : List (Nat × Nat)) (k : Nat)
    (hk : k ∈ (bulkPlan c s ks).misses) (hno : ∀ q, q ∈ kvs → q.1 ≠ k) :
    k ∉ (bulkReturn (bulkPlan c s ks) kvs).map (·.1) := by
  intro hmem
  have hn := (plan_partition c s ks).1
  unfold keysOf at hn
  obtain ⟨q, hq, he⟩ := List.mem_map.mp hmem
  rcases List.mem_append.mp hq with h1 | h1
  · -- a hit with the key of a miss contradicts the partition
    exact (List.nodup_append.mp hn).2.2 k (List.mem_map.mpr ⟨q, h1, he⟩) k hk rfl
  · obtain ⟨_, q', hq', hk', _⟩ := supplied_mem h1
    exact hno q' hq' (hk'.trans he)

/-- a volunteered key is not returned on the loader's word (it is only cached) -/
theorem c10_bulk_volunteered_not_returned (misses : List Nat) (kvs : List (Nat × Nat)) (q : Nat × Nat)
    (h : q ∈ bulkVolunteered misses kvs) : q.1 ∉ (bulkSupplied misses kvs).map (·.1) := by
  unfold bulkVolunteered at h
  intro hm
  have hc : misses.contains q.1 = true := List.contains_iff_mem.mpr ((supplied_sublist misses kvs).subset hm)
  rw [List.mem_filter, hc] at h
  exact absurd h.2 (by decide)

/-- non-vacuity: keys 1 (twice), 2, 3 requested on an empty cache, the loader supplies 1 and volunteers 9 -/
example : (bulkPlan {} {} [1, 2, 1, 3]).misses = [1, 2, 3] ∧
    bulkReturn (bulkPlan {} {} [1, 2, 1, 3]) [(1, 10), (9, 90)] = [(1, 10)] ∧
    bulkVolunteered [1, 2, 3] [(1, 10), (9, 90)] = [(9, 90)] := by decide

end bulk

end OtterVerif.Props.C10
