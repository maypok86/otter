/-
  C01 / C03 / C06 / C12 — the per-key decision code of cache_impl.go refines the map with deadlines.

  Impl.Table is a transcription of getNode, newNode, calcExpiresAtAfterWrite, calcRefreshableAt, calcExpiresAtAfterRead /
  setExpiresAfterRead, getCause, atomicSet, atomicDelete, set, Invalidate and GetIfPresent, with the user's calculators as
  parameters that see the entry's current duration the way the Go calculators do.  Proofs.TableRefine shows, for every
  configuration the spec can express (no policy / creating / writing / accessing / per-key tables, for expiry and refresh),
  every table, key, value and clock reading within ±2^62, that each step produces the spec's new map, result and atomic
  deletion events.  The model's tests are tied to the regenerated ones of cache_impl.go (Gen.CacheRead, Gen.Deadline).
-/
import OtterVerif.Proofs.TableRefine
import OtterVerif.Proofs.TableTrace
import OtterVerif.Proofs.BvFacts
import OtterVerif.Props.C12
import OtterVerif.Gen.CacheRead
import OtterVerif.Gen.Deadline
import OtterVerif.Gen.Xmath
import OtterVerif.Gen.CalcSites

namespace OtterVerif.Props.C01Refine
open OtterVerif OtterVerif.Impl.Table OtterVerif.Proofs.TableRefine
open OtterVerif.Spec (Cause Event Out Entry Cfg Kind)

/-! ### refinement, operation by operation -/

theorem c01_set_refines (c : Cfg) (s : Spec.State) (t : Tbl) (k v : Nat) (hs : s.m = absT t)
    (hnow : -4611686018427387904 < s.now ∧ s.now < 4611686018427387904)
    (hwf : ∀ o, lookup t k = some o → NodeOk k o) (hk1 : KindOk c.expiry) (hk2 : KindOk c.refresh) :
    absT (Impl.Table.set (cfgOf c) t k v false s.now).1 = (Spec.set c s k v).1.m ∧
    (Impl.Table.set (cfgOf c) t k v false s.now).2.1 = (Spec.set c s k v).2.1 ∧
    (Impl.Table.set (cfgOf c) t k v false s.now).2.2 = (Spec.set c s k v).2.2 :=
  set_refines c s t k v hs hnow hwf hk1 hk2

theorem c01_setIfAbsent_refines (c : Cfg) (s : Spec.State) (t : Tbl) (k v : Nat) (hs : s.m = absT t)
    (hnow : -4611686018427387904 < s.now ∧ s.now < 4611686018427387904)
    (hwf : ∀ o, lookup t k = some o → NodeOk k o) (hk1 : KindOk c.expiry) (hk2 : KindOk c.refresh) (hr : ReadOk c) :
    absT (Impl.Table.set (cfgOf c) t k v true s.now).1 = (Spec.setIfAbsent c s k v).1.m ∧
    (Impl.Table.set (cfgOf c) t k v true s.now).2.1 = (Spec.setIfAbsent c s k v).2.1 ∧
    (Impl.Table.set (cfgOf c) t k v true s.now).2.2 = (Spec.setIfAbsent c s k v).2.2 :=
  setIfAbsent_refines c s t k v hs hnow hwf hk1 hk2 hr

theorem c01_invalidate_refines (s : Spec.State) (t : Tbl) (k : Nat) (hs : s.m = absT t)
    (hwf : ∀ o, lookup t k = some o → o.key = k) :
    absT (invalidate t k s.now).1 = (Spec.invalidate s k).1.m ∧
    (invalidate t k s.now).2.1 = (Spec.invalidate s k).2.1 ∧
    (invalidate t k s.now).2.2 = (Spec.invalidate s k).2.2 :=
  invalidate_refines s t k hs hwf

theorem c01_getIfPresent_refines (c : Cfg) (s : Spec.State) (t : Tbl) (k : Nat) (hs : s.m = absT t)
    (hnow : -4611686018427387904 < s.now ∧ s.now < 4611686018427387904)
    (hwf : ∀ o, lookup t k = some o → NodeOk k o) (hr : ReadOk c) :
    absT (getIfPresent (cfgOf c) t k s.now).1 = (Spec.getIfPresent c s k).1.m ∧
    (getIfPresent (cfgOf c) t k s.now).2 = (Spec.getIfPresent c s k).2 :=
  getIfPresent_refines c s t k hs hnow hwf hr

/-- Compute's critical section for every answer of the remapping function (write / invalidate / cancel / panic / invalid op):
    a cancelled Compute leaves a visible entry alone and removes an expired one (reported as Expiration) -/
theorem c01_compute_refines (c : Cfg) (s : Spec.State) (t : Tbl) (k : Nat) (act : Spec.Act) (hs : s.m = absT t)
    (hnow : -4611686018427387904 < s.now ∧ s.now < 4611686018427387904)
    (hwf : ∀ o, lookup t k = some o → NodeOk k o) (hk1 : KindOk c.expiry) (hk2 : KindOk c.refresh) :
    absT (computeStep (cfgOf c) t k act s.now).1 = (Spec.computeStep c s k act).1.m ∧
    (computeStep (cfgOf c) t k act s.now).2.1 = (Spec.computeStep c s k act).2.1 ∧
    (computeStep (cfgOf c) t k act s.now).2.2 = (Spec.computeStep c s k act).2.2 :=
  computeStep_refines c s t k act hs hnow hwf hk1 hk2

/-- **C01 for every history**: any sequence of Set / SetIfAbsent / Invalidate / GetIfPresent / Compute steps (with any answers
    of the remapping function) and clock advances, run from the empty cache on the transcription of the code, returns at every
    step the result and the atomic deletion events of the map-with-deadlines spec.  The only hypothesis about the history: the
    clock stays within ±2^62 ns of its reference point (`ClockOk`); the induction carries the table's well-formedness -/
theorem c01_every_history (c : Cfg) (hk1 : KindOk c.expiry) (hk2 : KindOk c.refresh) (hr : ReadOk c)
    (ops : List Proofs.TableTrace.Op) (now0 : Int) (hclk : Proofs.TableTrace.ClockOk now0 ops) :
    (Proofs.TableTrace.irun c { now := now0, t := [] } ops).2 = (Proofs.TableTrace.srun c { now := now0 } ops).2 :=
  (Proofs.TableTrace.history_sim c hk1 hk2 hr ops { now := now0, t := [] } { now := now0 } rfl rfl
    Proofs.TableTrace.allOk_nil hclk).1

/-- ... and the states stay related: the table abstracts to the spec's map after every prefix -/
theorem c01_history_states (c : Cfg) (hk1 : KindOk c.expiry) (hk2 : KindOk c.refresh) (hr : ReadOk c)
    (ops : List Proofs.TableTrace.Op) (is : Proofs.TableTrace.IState) (ss : Spec.State)
    (hm : ss.m = absT is.t) (hn : ss.now = is.now) (hok : Proofs.TableTrace.AllOk is.t) (hclk : Proofs.TableTrace.ClockOk is.now ops) :
    (Proofs.TableTrace.srun c ss ops).1.m = absT (Proofs.TableTrace.irun c is ops).1.t :=
  (Proofs.TableTrace.history_sim c hk1 hk2 hr ops is ss hm hn hok hclk).2

/-- non-vacuity: a concrete history with an expiring write, a clock jump past the deadline and a rewrite -/
example : Proofs.TableTrace.ClockOk 5 [.set 1 10, .advance 1000, .get 1, .setIfAbsent 1 11, .compute 1 .cancel, .invalidate 1] := by
  unfold Proofs.TableTrace.ClockOk Proofs.TableTrace.InRange; simp [Proofs.TableTrace.ClockOk, Proofs.TableTrace.InRange]

/-- C03 on the transcription itself: GetIfPresent reports a value only from a node whose deadline lies strictly after the clock
    reading of the call, and the node it leaves in the table still has a deadline in the future -/
theorem c03_get_only_unexpired (cfg : TCfg) (t : Tbl) (k v : Nat) (now : Int)
    (h : (getIfPresent cfg t k now).2 = .valOk v true) :
    ∃ n, lookup t k = some n ∧ now < n.exp ∧ n.val = v := by
  revert h
  -- no node, an expired node, a visible node
  fun_cases getIfPresent cfg t k now with
  | case1 => nofun
  | case2 => nofun
  | case3 n hl hx => rintro ⟨⟩; exact ⟨n, hl, hasExpired_false.mp ((Bool.not_eq_true _).mp hx), rfl⟩

/-- C03: a lookup finds a node iff the spec's entry is live; C06: the cause is Expiration iff the deadline has passed -/
theorem c03_visibility_and_cause (n : TNode) (now : Int) (c : Cause) :
    (!hasExpired n now) = (absN n).liveAt now ∧ getCause n now c = Spec.causeOf (absN n) now c :=
  ⟨visible_iff_live n now, cause_eq n now c⟩

/-- C12: the deadlines a write gives the new node, through newNode's inheritance, the calculators' "keep" answers and the
    `currentDuration != d` shortcut with its int64 wrap, are exactly the spec's -/
theorem c12_write_deadlines (c : Cfg) (k v : Nat) (prev : Option TNode) (now : Int)
    (hnow : -4611686018427387904 < now ∧ now < 4611686018427387904)
    (hprev : ∀ o, prev = some o → now < o.exp ∧ o.exp ≤ maxI64) (hk : KindOk c.expiry) :
    (calcExpiresAtAfterWrite (cfgOf c) (newNode (cfgOf c) k v prev) prev now).exp
      = Spec.expAfterWrite c now k (prev.map absN) :=
  exp_refines c k v prev now hnow hprev hk

/-- C12: the deadline a read stores is the spec's (ExpireAfterRead) -/
theorem c12_read_deadline (c : Cfg) (k : Nat) (o : TNode) (now : Int)
    (hnow : -4611686018427387904 < now ∧ now < 4611686018427387904)
    (hkey : o.key = k) (hvis : now < o.exp) (hmax : o.exp ≤ maxI64) (hr : ReadOk c) :
    absN (calcExpiresAtAfterRead (cfgOf c) o now) = { absN o with exp := Spec.expAfterRead c now k (absN o) } :=
  read_refines c k o now hnow hkey hvis hmax hr

/-- C12: SetExpiresAfter — only a visible entry, only a positive duration, the deadline is `now + d` saturated -/
theorem c12_setExpiresAfter_refines (c : Cfg) (s : Spec.State) (t : Tbl) (k : Nat) (d : Int) (hs : s.m = absT t)
    (hnow : -4611686018427387904 < s.now ∧ s.now < 4611686018427387904)
    (hwf : ∀ o, lookup t k = some o → NodeOk k o) :
    MapEq (absT (setExpiresAfter (cfgOf c) t k d s.now)) (Spec.setExpiresAfter c s k d).m :=
  setExpiresAfter_refines c s t k d hs hnow hwf

/-- C12: SetRefreshableAfter — the entry physically present (expired or not), only a positive duration -/
theorem c12_setRefreshableAfter_refines (c : Cfg) (s : Spec.State) (t : Tbl) (k : Nat) (d : Int) (hs : s.m = absT t)
    (hnow : -4611686018427387904 < s.now ∧ s.now < 4611686018427387904)
    (hwf : ∀ o, lookup t k = some o → NodeOk k o) :
    MapEq (absT (setRefreshableAfter (cfgOf c) t k d s.now)) (Spec.setRefreshableAfter c s k d).m :=
  setRefreshableAfter_refines c s t k d hs hnow hwf

/-- the tests of the two explicit setters as the code has them -/
theorem c12_gen_explicit_setters (w a b : Bool) (d cur : BitVec 64) :
    Gen.CacheRead.cache_SetExpiresAfter_c0 w d = (!w || BitVec.sle d 0#64) ∧
    Gen.CacheRead.cache_SetExpiresAfter_c1 a b = (b || a) ∧
    Gen.CacheRead.cache_SetRefreshableAfter_c0 w d = (!w || BitVec.sle d 0#64) ∧
    Gen.CacheRead.cache_SetRefreshableAfter_c1 a = a ∧
    Gen.CacheRead.cache_SetRefreshableAfter_c2 cur d = (BitVec.slt 0#64 d && (cur != d)) :=
  ⟨rfl, rfl, rfl, rfl, rfl⟩

/-- C20: GetIfPresent and Compute count exactly one lookup each, a hit iff the code's test "a node was found and it has not
    expired" holds (getNode's two miss branches, doCompute's recordStats test) — a Compute whose function panics counts nothing -/
theorem c20_lookup_counts (c : Cfg) (s : Spec.State) (t : Tbl) (k : Nat) (onFound onAbsent : Spec.Act) (hs : s.m = absT t)
    (hf : onFound ≠ .panic ∧ onFound ≠ .bad) (ha : onAbsent ≠ .panic ∧ onAbsent ≠ .bad) :
    ((Spec.getIfPresent c s k).1.stats.hits = s.stats.hits + (if lookupIsHit t k s.now then 1 else 0) ∧
     (Spec.getIfPresent c s k).1.stats.misses = s.stats.misses + (if lookupIsHit t k s.now then 0 else 1)) ∧
    ((Spec.compute c s k onFound onAbsent).1.stats.hits = s.stats.hits + (if lookupIsHit t k s.now then 1 else 0) ∧
     (Spec.compute c s k onFound onAbsent).1.stats.misses = s.stats.misses + (if lookupIsHit t k s.now then 0 else 1)) := by
  rw [lookupIsHit_live (MapEq.of_eq hs.symm) k]
  unfold Spec.compute
  cases hl : s.live k with
  | none =>
    rw [Spec.getIfPresent_none hl]
    refine ⟨⟨rfl, rfl⟩, ?_⟩
    cases onAbsent <;> first
      | exact absurd rfl ha.1 | exact absurd rfl ha.2 | (simp only [Spec.computeStep_stats]; exact ⟨rfl, rfl⟩)
  | some e =>
    rw [Spec.getIfPresent_some hl]
    refine ⟨⟨rfl, rfl⟩, ?_⟩
    cases onFound <;> first
      | exact absurd rfl hf.1 | exact absurd rfl hf.2 | (simp only [Spec.computeStep_stats]; exact ⟨rfl, rfl⟩)

/-! ### the model's tests are the code's (regenerated from cache_impl.go) -/

/-- the model's deadlineAfter is the code's (Gen.Deadline, int64 semantics with explicit wrap) on int64 arguments -/
theorem c12_gen_deadlineAfter (now d : Int) (hn : minI64 ≤ now ∧ now ≤ maxI64) (hd : 0 ≤ d ∧ d ≤ maxI64) :
    Gen.Deadline.h_deadlineAfter now d = deadlineAfter now d :=
  (C12.deadlineAfter_exact now d hn hd.1 hd.2).trans (deadlineAfter_eq_satAdd now d).symm

/-- the guards around the calculators, as the code has them: a positive duration that differs from the current one is
    stored; a read stores whenever its (positive) duration differs from the current one; a write is a creation iff there is
    no visible predecessor; a node inherits deadlines only from a predecessor and only for configured policies -/
theorem c12_gen_guards (cur d : BitVec 64) (a b : Bool) :
    Gen.CacheRead.cache_calcExpiresAtAfterWrite_c2 cur d = (BitVec.slt 0#64 d && (cur != d)) ∧
    Gen.CacheRead.cache_calcRefreshableAt_c5 cur d = (BitVec.slt 0#64 d && (cur != d)) ∧
    Gen.CacheRead.cache_setExpiresAfterRead_c0 d = BitVec.sle d 0#64 ∧
    Gen.CacheRead.cache_setExpiresAfterRead_c1 cur d = (d != cur) ∧
    Gen.CacheRead.cache_setExpiresAfterRead_a1 cur d = cur - d ∧
    Gen.CacheRead.cache_calcExpiresAtAfterWrite_c1 a b = (b || a) ∧
    Gen.CacheRead.cache_newNode_c0 a b = (a && b) ∧ Gen.CacheRead.cache_newNode_c1 a b = (a && b) ∧
    Gen.CacheRead.cache_newNode_a1 = 9223372036854775807#64 ∧ Gen.CacheRead.cache_newNode_a3 = 9223372036854775807#64 :=
  ⟨rfl, rfl, rfl, rfl, rfl, rfl, rfl, rfl, rfl, rfl⟩

/-- what `cfgOf` assumes about the library's built-in calculators is what expiry_calculator.go / refresh_calculator.go say
    (regenerated): "creating" keeps the deadline on update and read by answering with the entry's current duration, "writing"
    keeps it on read only, "accessing" never; the refresh calculators keep it after a reload failure, "creating" also after an
    update and a reload; and the current duration is `ExpiresAtNano - SnapshotAtNano` / `RefreshableAtNano - SnapshotAtNano` in
    int64 arithmetic -/
theorem c12_gen_builtin_calculators (f cur e r snap : BitVec 64) :
    (Gen.CalcSites.varExpiryCreating_ExpireAfterCreate_r0 f = f ∧ Gen.CalcSites.varExpiryCreating_ExpireAfterUpdate_r0 cur = cur ∧
     Gen.CalcSites.varExpiryCreating_ExpireAfterRead_r0 cur = cur) ∧
    (Gen.CalcSites.varExpiryWriting_ExpireAfterCreate_r0 f = f ∧ Gen.CalcSites.varExpiryWriting_ExpireAfterUpdate_r0 f = f ∧
     Gen.CalcSites.varExpiryWriting_ExpireAfterRead_r0 cur = cur) ∧
    (Gen.CalcSites.varExpiryAccessing_ExpireAfterCreate_r0 f = f ∧ Gen.CalcSites.varExpiryAccessing_ExpireAfterUpdate_r0 f = f ∧
     Gen.CalcSites.varExpiryAccessing_ExpireAfterRead_r0 f = f) ∧
    (Gen.CalcSites.varRefreshCreating_RefreshAfterCreate_r0 f = f ∧ Gen.CalcSites.varRefreshCreating_RefreshAfterUpdate_r0 cur = cur ∧
     Gen.CalcSites.varRefreshCreating_RefreshAfterReload_r0 cur = cur ∧ Gen.CalcSites.varRefreshCreating_RefreshAfterReloadFailure_r0 cur = cur) ∧
    (Gen.CalcSites.varRefreshWriting_RefreshAfterCreate_r0 f = f ∧ Gen.CalcSites.varRefreshWriting_RefreshAfterUpdate_r0 f = f ∧
     Gen.CalcSites.varRefreshWriting_RefreshAfterReload_r0 f = f ∧ Gen.CalcSites.varRefreshWriting_RefreshAfterReloadFailure_r0 cur = cur) ∧
    (Gen.CalcSites.Entry_ExpiresAfter_r0 e snap = e - snap ∧ Gen.CalcSites.Entry_RefreshableAfter_r0 r snap = r - snap) :=
  ⟨⟨rfl, rfl, rfl⟩, ⟨rfl, rfl, rfl⟩, ⟨rfl, rfl, rfl⟩, ⟨rfl, rfl, rfl, rfl⟩, ⟨rfl, rfl, rfl, rfl⟩, ⟨rfl, rfl⟩⟩

/-- the model's `durationTo` (int64 subtraction, `wrapS 64`) is that subtraction -/
theorem c12_gen_duration_wraps (e n : Int) :
    (BitVec.ofInt 64 e - BitVec.ofInt 64 n).toInt = durationTo e n := by
  unfold durationTo
  rw [BitVec.toInt_sub, BitVec.toInt_ofInt, BitVec.toInt_ofInt, ← Int.sub_bmod, Bv.wrapS_64_eq_bmod]

/-- F19 (repaired in /repo 0d976a3): the earlier test `xmath.Abs(int64(d - current)) > 0` is false for a difference of
    MinInt64 although the two durations differ — the witness of the defect, over the regenerated xmath.Abs -/
theorem c12_abs_of_minInt64_is_not_positive :
    BitVec.slt 0#64 (Gen.Xmath.Abs 0x8000000000000000#64) = false ∧ (0x8000000000000000#64 != 0#64) = true := by decide

/-! non-vacuity: a table with one visible entry satisfies the hypotheses -/
example : NodeOk 3 { key := 3, val := 1, weight := 1, exp := 100, ref := maxI64 } := by
  unfold NodeOk maxI64; decide

end OtterVerif.Props.C01Refine
