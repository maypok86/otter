/-
  C01 — Sequential conformance to a map-with-deadlines model.

  The model the real cache is compared with on every run (SEQ correspondence, all public operations, all feature
  combinations) is `Spec`.  These theorems establish that `Spec` IS an abstract map whose entries carry deadlines: for
  every state, key and value each operation is characterised pointwise on the abstract function `k ↦ live entry of k`,
  and a value is returned only if the abstract map holds it for that key.  The finite-map laws of the association list
  (read-your-write, frame, delete, distinct keys) are Proofs.MapLemmas' `find_put`, `find_erase`, `WF_put`, `WF_erase`.
-/
import OtterVerif.Proofs.MapLemmas

namespace OtterVerif.Props.C01
open OtterVerif OtterVerif.Spec

/-- the abstraction: the function from keys to their observable entry -/
def abs (s : State) : Nat → Option Entry := fun k => s.live k

/-- Set: frame — every other key keeps its observable entry (at `k` itself the right side is the definition of `live`; what is
    installed there is `c01_set_installs`) -/
theorem c01_set_abs (c : Cfg) (s : State) (k v k' : Nat) :
    abs (Spec.set c s k v).1 k' =
      if k' = k then (((Spec.set c s k v).1.phys k).filter (fun e => e.liveAt s.now)) else abs s k' := by
  unfold abs
  split
  · subst k'; rfl
  · rename_i hk
    exact (live_put (s.clearInflight k) k k' _).trans (if_neg hk)

/-- the value Set installs is the value written -/
theorem c01_set_installs (c : Cfg) (s : State) (k v : Nat) :
    ((Spec.set c s k v).1.phys k).map (·.val) = some v := by
  rw [show (Spec.set c s k v).1 = (write c (s.clearInflight k) k v).1 from rfl, phys_write, if_pos rfl]
  rfl

/-- Set returns the previous value iff the abstract map held one -/
theorem c01_set_result (c : Cfg) (s : State) (k v : Nat) :
    (Spec.set c s k v).2.1 = match abs s k with | some o => .valOk o.val false | none => .valOk v true := by
  unfold Spec.set abs; rfl

/-- GetIfPresent returns exactly what the abstract map holds -/
theorem c01_get_result (c : Cfg) (s : State) (k : Nat) :
    (getIfPresent c s k).2 = match abs s k with | some e => .valOk e.val true | none => .valOk 0 false := by
  unfold abs
  cases h : s.live k with
  | none => rw [getIfPresent_none h]
  | some e => rw [getIfPresent_some h]

/-- a read does not change which value any key maps to -/
theorem c01_get_keeps_values (c : Cfg) (s : State) (k k' : Nat) :
    ((getIfPresent c s k).1.phys k').map (·.val) = (s.phys k').map (·.val) := by
  cases h : s.live k with
  | none => rw [getIfPresent_none h]; rfl
  | some e =>
    rw [getIfPresent_some h, phys_touch]
    split
    · subst k'; rw [(live_some.mp h).1]; rfl
    · rfl

/-- Invalidate: the key becomes absent, every other key is untouched -/
theorem c01_invalidate_abs (s : State) (k k' : Nat) :
    abs (invalidate s k).1 k' = if k' = k then none else abs s k' :=
  live_remove (s.clearInflight k) k .invalidation k'

/-- SetIfAbsent writes only when the abstract map has no entry -/
theorem c01_setIfAbsent_result (c : Cfg) (s : State) (k v : Nat) :
    (setIfAbsent c s k v).2.1 = match abs s k with | some o => .valOk o.val false | none => .valOk v true := by
  unfold setIfAbsent abs
  cases s.live k <;> rfl

/-- iteration yields exactly the abstract map's entries (keys distinct) -/
theorem c01_iteration_sound (s : State) (p : Nat × Entry) (h : WF s.m) (hp : p ∈ liveEntries s) :
    abs s p.1 = some p.2 :=
  live_some.mpr ⟨find_of_mem h (mem_liveEntries.mp hp).1, (mem_liveEntries.mp hp).2⟩

theorem c01_iteration_complete (s : State) (k : Nat) (e : Entry) (h : abs s k = some e) :
    (k, e) ∈ liveEntries s :=
  mem_liveEntries.mpr ⟨mem_of_find (live_some.mp h).1, (live_some.mp h).2⟩

/-- an entry present in the abstract map stays present across time until its deadline -/
theorem c01_present_until_deadline (s : State) (k : Nat) (e : Entry) (d : Int) (h : s.phys k = some e)
    (hd : s.now + d < e.exp) : abs (advance s d) k = some e :=
  live_some.mpr ⟨h, hd⟩

/-! ### Non-vacuity -/
def e1 : Entry := { val := 7, weight := 1, exp := 500, ref := maxI64 }
def s1 : State := { now := 100, m := [(1, e1)] }
example : abs s1 1 = some e1 := by decide
example : (getIfPresent {} s1 1).2 = .valOk 7 true := by decide

end OtterVerif.Props.C01
