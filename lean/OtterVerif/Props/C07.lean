/-
  C07 — Entries disappear only for a sanctioned, truthful reason.

  The SEQ oracle accepts an automatic removal reported by the cache only through `Spec.evict`;
  these theorems say what `evict` accepts, for EVERY state, configuration and event: Overflow only
  when the total weight exceeds the maximum at that moment (or the entry alone does) and never
  for zero-weight entries or unbounded caches; Expiration only when the deadline has passed.

  The second half is about the transcription of policy.go itself (Impl.Policy, tied by UNIT-policy): the converse of the
  bound.  Every node `evictFromMain` hands to the eviction callback is removed in an iteration whose guard
  `weightedSize > maximum` held in the very state it is removed from (`Just`).
-/
import OtterVerif.Proofs.MapLemmas
import OtterVerif.Proofs.PolicyJust
import OtterVerif.Conc.PolicySkeleton
import OtterVerif.Gen.Skeleton

namespace OtterVerif.Props.C07
open OtterVerif OtterVerif.Spec

theorem c07_overflow_justified (c : Cfg) (s s' : State) (k v : Nat)
    (h : evict c s ⟨k, v, .overflow⟩ = some s') :
    c.bounded = true ∧ ∃ mx e, s.maximum = some mx ∧ s.phys k = some e ∧ e.val = v ∧
      s.now < e.exp ∧ e.weight ≠ 0 ∧ (s.totalWeight > mx ∨ e.weight > mx) := by
  obtain ⟨e, he, hv, hok, _⟩ := evict_some c s s' _ h
  obtain ⟨hc, _⟩ | ⟨_, hb, hl, hw, mx, hmx, hor⟩ := (evictOk_iff c s _ e).mp hok
  · cases hc
  · exact ⟨hb, mx, e, hmx, he, hv, hl, hw, hor⟩

theorem c07_expiration_justified (c : Cfg) (s s' : State) (k v : Nat)
    (h : evict c s ⟨k, v, .expiration⟩ = some s') :
    ∃ e, s.phys k = some e ∧ e.val = v ∧ e.exp ≤ s.now := by
  obtain ⟨e, he, hv, hok, _⟩ := evict_some c s s' _ h
  obtain ⟨_, hx⟩ | ⟨hc, _⟩ := (evictOk_iff c s _ e).mp hok
  · exact ⟨e, he, hv, hx⟩
  · cases hc

/-- automatic removals are only ever Overflow or Expiration -/
theorem c07_only_two_causes (c : Cfg) (s s' : State) (ev : Event) (h : evict c s ev = some s') :
    ev.cause = .overflow ∨ ev.cause = .expiration := by
  obtain ⟨e, _, _, hok, _⟩ := evict_some c s s' _ h
  exact ((evictOk_iff c s ev e).mp hok).symm.imp And.left And.left

/-- a cache without a size bound never reports Overflow -/
theorem c07_unbounded_never_overflow (c : Cfg) (s : State) (k v : Nat) (h : c.bounded = false) :
    evict c s ⟨k, v, .overflow⟩ = none :=
  Option.eq_none_iff_forall_ne_some.mpr fun s' he =>
    absurd (c07_overflow_justified c s s' k v he).1 (by rw [h]; decide)

/-- zero-weight entries survive any size pressure -/
theorem c07_zero_weight_survives (c : Cfg) (s : State) (k v : Nat) (e : Entry)
    (hp : s.phys k = some e) (hw : e.weight = 0) : evict c s ⟨k, v, .overflow⟩ = none :=
  Option.eq_none_iff_forall_ne_some.mpr fun s' he => by
    obtain ⟨_, mx, e', _, hp', _, _, hw', _⟩ := c07_overflow_justified c s s' k v he
    rw [hp] at hp'; cases hp'; exact hw' hw

/-- a cache within its maximum whose entries each fit loses nothing to size eviction -/
theorem c07_no_spurious (c : Cfg) (s : State) (k v : Nat) (mx : Nat) (hm : s.maximum = some mx)
    (htot : s.totalWeight ≤ mx) (hall : ∀ e, s.phys k = some e → e.weight ≤ mx) :
    evict c s ⟨k, v, .overflow⟩ = none :=
  Option.eq_none_iff_forall_ne_some.mpr fun s' he => by
    obtain ⟨_, mx', e', hm', hp', _, _, _, hor⟩ := c07_overflow_justified c s s' k v he
    rw [hm] at hm'; cases hm'
    have := hall e' hp'
    omega

/-- a live entry is never removed as expired -/
theorem c07_live_not_expired (c : Cfg) (s : State) (k v : Nat) (e : Entry)
    (hp : s.phys k = some e) (hl : s.now < e.exp) : evict c s ⟨k, v, .expiration⟩ = none :=
  Option.eq_none_iff_forall_ne_some.mpr fun s' he => by
    obtain ⟨e', hp', _, hd⟩ := c07_expiration_justified c s s' k v he
    rw [hp] at hp'; cases hp'; omega

/-- an accepted removal removes exactly the reported entry and nothing else -/
theorem c07_removes_only_reported (c : Cfg) (s s' : State) (ev : Event) (k' : Nat)
    (h : evict c s ev = some s') (hk : k' ≠ ev.key) : s'.phys k' = s.phys k' := by
  obtain ⟨e, _, _, _, rfl⟩ := evict_some c s s' ev h
  exact find_erase_other _ _ _ hk

/-! ### the transcription of policy.go: nothing is evicted that need not be -/

section policy
open OtterVerif.Impl OtterVerif.Impl.Policy

/-- every size eviction of `evictNodes` happens in a state whose running total exceeds the maximum: the result is reached
    from the state the window pass left by a chain of evictions each guarded by `maximum < weightedSize` -/
theorem c07_every_eviction_guarded (p : Policy) : Just (evictFromWindow p).1 (evictNodes p) := just_evictNodes p

/-- **a cache within its maximum loses nothing to size eviction** -/
theorem c07_within_maximum_nothing_evicted (p : Policy) (hb : p.weightedSize.toNat ≤ p.maximum.toNat) :
    (evictNodes p).evicted = p.evicted :=
  evictNodes_within_bound p (by simp [BitVec.ult]; exact hb)

/-- the same in terms of the entries: in every state reachable by any order of events, if the sum of the weights of the
    tracked entries (in the policy's own uint64 arithmetic) does not exceed the maximum, evictNodes removes nothing -/
theorem c07_sum_within_maximum_nothing_evicted {S : List Nat} {p : Policy} (h : Reach S p)
    (hb : (wsum p (all p)).toNat ≤ p.maximum.toNat) : (evictNodes p).evicted = p.evicted := by
  have hw : p.weightedSize = wsum p (all p) := reach_winv h
  exact c07_within_maximum_nothing_evicted p (by rw [hw]; exact hb)

/-- if evictNodes removed anything, the running total exceeded the maximum -/
theorem c07_eviction_implies_overflow (p : Policy) (hne : (evictNodes p).evicted ≠ p.evicted) :
    p.maximum.toNat < p.weightedSize.toNat :=
  Nat.lt_of_not_le fun hb => hne (c07_within_maximum_nothing_evicted p hb)

/-- a new arrival is handed to the eviction callback by `add` only if its weight alone exceeds the maximum -/
theorem c07_add_evicts_only_oversized (p : Policy) (id : Nat) (hw : (w64 (p.node id).weight).toNat ≤ p.maximum.toNat) :
    (add p id).evicted = p.evicted :=
  add_evicts_only_oversized p id (by simp [BitVec.ult]; exact hw)

/-- non-vacuity: a reachable policy holding weight 2 of 10, on which evictNodes is the identity on the evicted list -/
example : (evictNodes (add (mkNode ({ maximum := 10, windowMaximum := 1 } : Policy) 1 5 2 .alive) 1)).evicted = [] := by decide

/-! the eviction loops have the shape the transcription follows (skeletons regenerated from policy.go on every run) -/
theorem skeleton_policy_evictFromMain : Gen.Skeleton.policy_evictFromMain = Conc.PolicySkeleton.policy_evictFromMain := rfl
theorem skeleton_policy_evictFromWindow : Gen.Skeleton.policy_evictFromWindow = Conc.PolicySkeleton.policy_evictFromWindow := rfl
theorem skeleton_policy_evictNodes : Gen.Skeleton.policy_evictNodes = Conc.PolicySkeleton.policy_evictNodes := rfl

end policy

/-! ### Non-vacuity -/
def eA : Entry := { val := 7, weight := 1, exp := maxI64, ref := maxI64 }
def eB : Entry := { val := 8, weight := 1, exp := maxI64, ref := maxI64 }
def sFull : State := { now := 5, maximum := some 1, m := [(1, eA), (2, eB)] }
example : (evict { bound := .size 1 } sFull ⟨1, 7, .overflow⟩).isSome = true := by decide
example : (evict { bound := .size 1 } sFull ⟨1, 7, .expiration⟩) = none := by decide

end OtterVerif.Props.C07
