/-
  C01 / C03 — the observers: GetEntryQuietly, GetEntry (nodeToEntry's snapshot) and the iteration filter of cache.nodes()
  refine the spec's; the snapshot and the filters are the regenerated ones (Gen.CacheRead).
-/
import OtterVerif.Proofs.TableRead
import OtterVerif.Gen.CacheRead

namespace OtterVerif.Props.C03Read
open OtterVerif OtterVerif.Impl.Table OtterVerif.Proofs.TableRefine OtterVerif.Proofs.TableTrace OtterVerif.Proofs.TableRead
open OtterVerif.Spec (Cause Event Out Entry Cfg Kind)

/-- C01 / C03: GetEntryQuietly returns the snapshot of the live entry and nothing for an expired or absent one -/
theorem c03_getEntryQuietly_refines (c : Cfg) (s : Spec.State) (t : Tbl) (k : Nat) (hs : s.m = absT t)
    (hu : ∀ o, lookup t k = some o → Unreach (cfgOf c) o) :
    getEntryQuietly (cfgOf c) t k s.now = Spec.getEntryQuietly c s k :=
  getEntryQuietly_refines c s t k hs hu

/-- C01 / C03: GetEntry stores the read's deadline and returns the snapshot taken after it -/
theorem c03_getEntry_refines (c : Cfg) (s : Spec.State) (t : Tbl) (k : Nat) (hs : s.m = absT t)
    (hnow : -4611686018427387904 < s.now ∧ s.now < 4611686018427387904)
    (hwf : ∀ o, lookup t k = some o → NodeOk k o) (hu : ∀ o, lookup t k = some o → Unreach (cfgOf c) o) (hr : ReadOk c) :
    absT (getEntry (cfgOf c) t k s.now).1 = (Spec.getEntry c s k).1.m ∧
    (getEntry (cfgOf c) t k s.now).2 = (Spec.getEntry c s k).2 :=
  getEntry_refines c s t k hs hnow hwf hu hr

/-- the invariant the snapshot theorems assume is established by every write and kept by every read -/
theorem c03_unreach_established (c : TCfg) (k v : Nat) (old : Option TNode) (now : Int) (kd : RefKind) (n : TNode) (h : Unreach c n) :
    Unreach c (atomicSet c k v old now kd).1 ∧ Unreach c (calcExpiresAtAfterRead c n now) :=
  ⟨unreach_atomicSet c k v old now kd, unreach_read c n now h⟩

/-- C03: iteration (All / Keys / Values / entries) yields exactly the spec's live entries and never an expired one -/
theorem c03_iteration_refines (s : Spec.State) (t : Tbl) (hs : s.m = absT t) :
    absT (liveNodes t s.now) = s.m.filter (fun p => p.2.liveAt s.now) ∧
    ∀ p ∈ liveNodes t s.now, s.now < p.2.exp :=
  ⟨liveNodes_refines s t hs, fun p hp => liveNodes_unexpired t s.now p hp⟩

/-! ### ties to the regenerated code -/

/-- cache.nodes() skips a node iff it is not alive or has expired; for an alive node that is the model's filter -/
theorem c03_gen_iteration_filter (n : TNode) (now : Int) :
    Gen.CacheRead.cache_nodes_c0 (hasExpired n now) true = hasExpired n now := by
  unfold Gen.CacheRead.cache_nodes_c0; simp

/-- getNodeQuietly answers nil for an absent, a dead or an expired node -/
theorem c03_gen_quiet_lookup (absent alive expired : Bool) :
    Gen.CacheRead.cache_getNodeQuietly_c0 expired alive absent = (absent || !alive || expired) :=
  rfl

/-- nodeToEntry's choices as the code makes them: snapshot time 0 without a time-based policy, otherwise the clock value it
    was given; unreachable (MaxInt64) for a deadline whose policy is off, otherwise the node's field -/
theorem c03_gen_snapshot (withTime withExp withRef : Bool) (nanos e r : BitVec 64) :
    (if Gen.CacheRead.cache_nodeToEntry_c0 withTime then Gen.CacheRead.cache_nodeToEntry_a1 nanos else Gen.CacheRead.cache_nodeToEntry_a0)
      = (if withTime then nanos else 0#64) ∧
    (if Gen.CacheRead.cache_nodeToEntry_c1 withExp then Gen.CacheRead.cache_nodeToEntry_a3 e else Gen.CacheRead.cache_nodeToEntry_a2)
      = (if withExp then e else BitVec.ofInt 64 maxI64) ∧
    (if Gen.CacheRead.cache_nodeToEntry_c2 withRef then Gen.CacheRead.cache_nodeToEntry_a5 r else Gen.CacheRead.cache_nodeToEntry_a4)
      = (if withRef then r else BitVec.ofInt 64 maxI64) := by
  unfold Gen.CacheRead.cache_nodeToEntry_c0 Gen.CacheRead.cache_nodeToEntry_c1 Gen.CacheRead.cache_nodeToEntry_c2
    Gen.CacheRead.cache_nodeToEntry_a0 Gen.CacheRead.cache_nodeToEntry_a1 Gen.CacheRead.cache_nodeToEntry_a2
    Gen.CacheRead.cache_nodeToEntry_a3 Gen.CacheRead.cache_nodeToEntry_a4 Gen.CacheRead.cache_nodeToEntry_a5
  refine ⟨rfl, ?_, ?_⟩ <;> (congr 1)

/-! ### C11: which reads hand a reload to the executor -/

/-- C11: the model's staleness test is the spec's (`cfg.withRefresh && e.staleAt now`, Spec.Check.isStale): a read of a fresh
    entry triggers nothing, a read at or after the refresh deadline does -/
theorem c11_isStale_refines (c : Cfg) (n : TNode) (now : Int) :
    isStale (cfgOf c) n now = (c.withRefresh && (absN n).staleAt now) := rfl

/-- C11: the model's test is the code's: `c.withRefresh && n.RefreshableAt() <= nowNano && n.IsAlive()` (signed comparison),
    for the mapped (alive) node; a retired node is never stale whatever its deadline (F16) -/
theorem c11_gen_isStale (withRef : Bool) (ref now : BitVec 64) :
    Gen.CacheRead.cache_isStale_r0 withRef true ref now = (withRef && decide (ref.toInt ≤ now.toInt)) ∧
    Gen.CacheRead.cache_isStale_r0 withRef false ref now = false := by
  unfold Gen.CacheRead.cache_isStale_r0
  simp [BitVec.sle]

/-! ### non-vacuity -/
example : Unreach (cfgOf { expiry := .writing 10 }) { key := 1, val := 7, weight := 1, exp := 10, ref := maxI64 } := by
  refine ⟨?_, ?_⟩ <;> intro h <;> first | rfl | (simp [cfgOf, Cfg.withExpiry] at h)
example : getEntryQuietly (cfgOf { expiry := .writing 10 }) [(1, { key := 1, val := 7, weight := 1, exp := 10, ref := maxI64 })] 1 3
    = .entry (some (7, 1, 10, maxI64, 3)) := by decide

end OtterVerif.Props.C03Read
