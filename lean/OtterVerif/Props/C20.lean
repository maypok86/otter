/-
  C20 — Statistics count exactly what happened (Spec level; the adder is `Props.C20Conc` over `Conc.Adder`).

  For EVERY state: each counting lookup adds exactly one to hits+misses and is a hit exactly when it found an
  unexpired entry; writes, invalidations, deadline setters and quiet reads change no lookup counter; each
  loader invocation adds exactly one to successes+failures (not-found is a success); each accepted automatic
  removal adds one eviction and the entry's weight; no counter ever decreases.
-/
import OtterVerif.Proofs.MapLemmas

namespace OtterVerif.Props.C20
open OtterVerif OtterVerif.Spec

def lookups (s : State) : Nat := s.stats.hits + s.stats.misses

theorem c20_lookup_counts_one (c : Cfg) (s : State) (k : Nat) :
    lookups (lookup c s k).1 = lookups s + 1 ∧
    ((lookup c s k).1.stats.hits = s.stats.hits + 1 ↔ (s.live k).isSome = true) := by
  unfold lookup lookups
  cases h : s.live k with
  | none => simp [miss]; omega
  | some e => simp [touch, hit]; omega

theorem c20_getIfPresent_counts_one (c : Cfg) (s : State) (k : Nat) :
    lookups (getIfPresent c s k).1 = lookups s + 1 :=
  getIfPresent_fst c s k ▸ (c20_lookup_counts_one c s k).1

theorem c20_compute_counts (c : Cfg) (s : State) (k : Nat) (f a : Act) :
    (compute c s k f a).2.1 ≠ .panic →
    lookups (compute c s k f a).1 = lookups s + 1 := by
  intro hnp
  unfold compute at *
  unfold lookups
  cases hl : s.live k <;> simp only [hl] at hnp ⊢
  · cases a <;> first | exact absurd rfl hnp | (simp only [computeStep_stats, miss]; omega)
  · cases f <;> first | exact absurd rfl hnp | (simp only [computeStep_stats, hit]; omega)

/-- writes, invalidations and deadline setters are not lookups -/
theorem c20_writes_count_nothing (c : Cfg) (s : State) (k v : Nat) (d : Int) :
    (Spec.set c s k v).1.stats = s.stats ∧ (invalidate s k).1.stats = s.stats ∧
    (setExpiresAfter c s k d).stats = s.stats ∧ (setRefreshableAfter c s k d).stats = s.stats ∧
    (invalidateAll s).1.stats = s.stats := by
  refine ⟨rfl, remove_stats _ _ _, ?_, ?_, rfl⟩
  · rw [setExpiresAfter_frame]
  · rw [setRefreshableAfter_frame]

theorem c20_setIfAbsent_counts_nothing (c : Cfg) (s : State) (k v : Nat) :
    (setIfAbsent c s k v).1.stats = s.stats := by
  unfold setIfAbsent; cases s.live k <;> rfl

theorem c20_load_counts_one (s : State) (o : LoadOutcome) :
    (recordLoad s o).stats.loadOk + (recordLoad s o).stats.loadFail = s.stats.loadOk + s.stats.loadFail + 1 ∧
    ((recordLoad s o).stats.loadOk = s.stats.loadOk + 1 ↔ (∃ v, o = .ok v) ∨ (∃ v, o = .notFound v)) := by
  unfold recordLoad; cases o <;> simp <;> omega

theorem c20_eviction_counted (c : Cfg) (s s' : State) (ev : Event) (h : evict c s ev = some s') :
    s'.stats.evictions = s.stats.evictions + 1 ∧
    ∃ e, s.phys ev.key = some e ∧ s'.stats.evictionWeight = s.stats.evictionWeight + e.weight := by
  obtain ⟨e, he, _, _, rfl⟩ := evict_some c s s' ev h
  exact ⟨rfl, e, he, rfl⟩

/-- explicit removals are not evictions -/
theorem c20_invalidate_not_eviction (s : State) (k : Nat) :
    (invalidate s k).1.stats.evictions = s.stats.evictions := by
  rw [show (invalidate s k).1.stats = s.stats from remove_stats _ _ _]

/-- counter by counter `≤`: the order in which "no counter ever decreases" is stated -/
def le (a b : Stats) : Prop :=
  a.hits ≤ b.hits ∧ a.misses ≤ b.misses ∧ a.loadOk ≤ b.loadOk ∧ a.loadFail ≤ b.loadFail ∧
  a.evictions ≤ b.evictions ∧ a.evictionWeight ≤ b.evictionWeight

theorem c20_monotone_lookup (c : Cfg) (s : State) (k : Nat) : le s.stats (lookup c s k).1.stats := by
  unfold lookup le
  cases s.live k <;> simp [miss, touch, hit]

theorem c20_monotone_load (s : State) (o : LoadOutcome) : le s.stats (recordLoad s o).stats := by
  unfold recordLoad le; cases o <;> simp

theorem c20_monotone_evict (c : Cfg) (s s' : State) (ev : Event) (h : evict c s ev = some s') : le s.stats s'.stats := by
  obtain ⟨e, _, _, _, rfl⟩ := evict_some c s s' ev h
  unfold le evictApply State.clearInflight; simp

/-! ### Non-vacuity -/
def e1 : Entry := { val := 7, weight := 3, exp := 500, ref := maxI64 }
def s1 : State := { now := 100, m := [(1, e1)] }
example : (lookup {} s1 1).1.stats.hits = 1 ∧ (lookup {} s1 2).1.stats.misses = 1 := by decide

end OtterVerif.Props.C20
