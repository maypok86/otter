/-
  C19 — Saving and reloading a cache reproduces its live contents and deadlines.

  For EVERY saved list, clock offset and limit: LoadCacheFrom attempts exactly the saved entries not expired at load
  time (in file order, within the weight limit); the deadline it restores for a saved deadline in the future is that
  deadline exactly, and for one already passed it is `now + 1` (due); nothing dead is loaded; everything is attempted
  when the saved weight is below the limit.  Regenerated tie: the filter in persistence.go is `expiresAt <= now`.
  The judge (`Spec.Check`, ops save/loadfrom) checks the real encoder/decoder and the real target cache against these.
-/
import OtterVerif.Spec.Core
import OtterVerif.Conc.DrainSkeleton
import OtterVerif.Conc.PersistSkeleton
import OtterVerif.Gen.Skeleton
import OtterVerif.Gen.Deadline
import OtterVerif.Gen.PersistSites
import OtterVerif.Pin.PersistSites
import OtterVerif.Proofs.BvFacts

namespace OtterVerif.Props.C19
open OtterVerif OtterVerif.Spec

/-- a saved deadline that lies in the future is restored exactly -/
theorem c19_deadline_restored (now saved : Int) (h : now < saved) (hs : saved ≤ maxI64) :
    restoredDeadline now saved = saved := by
  unfold restoredDeadline satAdd maxI64 at *
  split <;> omega

/-- a saved refresh deadline that has passed is loaded as due (one nanosecond from now) -/
theorem c19_deadline_due (now saved : Int) (h : saved ≤ now) (hn : now < maxI64) :
    restoredDeadline now saved = now + 1 := by
  unfold restoredDeadline satAdd maxI64 at *
  split <;> omega

/-- nothing that is dead at load time is loaded -/
theorem c19_nothing_dead_loaded (lim : Nat) (now : Int) (saved : List Saved) (size : Nat) :
    ∀ e ∈ loadableFrom true lim now size saved, now < e.2.2.2.1 := by
  -- the cases of `loadableFrom`: 1 nothing left, 2 the limit is reached, 3 the entry is dead and skipped, 4 the entry is loaded
  fun_induction loadableFrom true lim now size saved with
  | case1 => nofun
  | case2 => nofun
  | case3 _ _ _ _ _ ih => exact ih
  | case4 _ x rest _ hlive ih =>
    simp only [Bool.true_and, decide_eq_true_eq, Int.not_le] at hlive
    exact List.forall_mem_cons.mpr ⟨hlive, ih⟩

/-- only saved entries are loaded, in file order -/
theorem c19_loaded_sublist (w : Bool) (lim : Nat) (now : Int) (saved : List Saved) (size : Nat) :
    (loadableFrom w lim now size saved).Sublist saved := by
  fun_induction loadableFrom w lim now size saved with
  | case1 => exact List.Sublist.slnil
  | case2 => exact List.nil_sublist _
  | case3 _ _ _ _ _ ih => exact ih.cons _
  | case4 _ _ _ _ _ ih => exact ih.cons_cons _

def totalW (l : List Saved) : Nat := (l.map (·.2.2.1)).foldl (· + ·) 0

theorem totalW_cons (x : Saved) (rest : List Saved) : totalW (x :: rest) = x.2.2.1 + totalW rest := by
  unfold totalW; rw [← List.sum_eq_foldl_nat, ← List.sum_eq_foldl_nat, List.map_cons, List.sum_cons]

/-- everything is loaded provided each entry would still pass the loop's test `size < lim` if all the others had been loaded
    before it -/
theorem loadable_all (lim : Nat) (now : Int) (saved : List Saved) (size : Nat)
    (hfit : ∀ e ∈ saved, size + totalW saved < lim + e.2.2.1) (hlive : ∀ e ∈ saved, now < e.2.2.2.1) :
    loadableFrom true lim now size saved = saved := by
  fun_induction loadableFrom true lim now size saved with
  | case1 => rfl
  | case2 _ x =>
    have := hfit x List.mem_cons_self
    rw [totalW_cons] at this
    omega
  | case3 _ x _ _ hdead => exact absurd (hlive x List.mem_cons_self) (by simpa using hdead)
  | case4 _ x _ _ _ ih =>
    refine congrArg _ (ih (fun e he => ?_) fun e he => hlive e (List.mem_cons_of_mem _ he))
    have := hfit e (List.mem_cons_of_mem _ he)
    rw [totalW_cons] at this
    omega

/-- everything (not expired) is loaded when the saved contents fit below the limit -/
theorem c19_all_if_fits (lim : Nat) (now : Int) (saved : List Saved) (size : Nat)
    (hfit : size + totalW saved < lim + (if saved = [] then 1 else 0) ∨ size + totalW saved ≤ lim ∧ ∀ e ∈ saved, 0 < e.2.2.1)
    (hlive : ∀ e ∈ saved, now < e.2.2.2.1) :
    loadableFrom true lim now size saved = saved ∨ saved = [] := by
  refine .inl (loadable_all lim now saved size (fun e he => ?_) hlive)
  rcases hfit with h | ⟨h, hpos⟩
  · rw [if_neg (List.ne_nil_of_mem he)] at h
    omega
  · have := hpos e he
    omega

/-- regenerated tie: persistence.go skips an entry exactly when `expiresAt <= now` -/
theorem c19_filter_is_le (e now : Int) : Gen.Deadline.loadFilterSkips e now = decide (e ≤ now) :=
  rfl

/-! ### Non-vacuity -/
example : loadableFrom true 10 100 0 [(1, 10, 1, 100, 500), (2, 20, 1, 101, 500)] = [(2, 20, 1, 101, 500)] := by decide
example : restoredDeadline 100 250 = 250 := by decide

/-! ### The order of the calls in persistence.go is the one the theorems assume (regenerated on every run) -/
theorem skeleton_LoadCacheFrom : Gen.Skeleton.LoadCacheFrom = Conc.PersistSkeleton.LoadCacheFrom := rfl
/-- SaveCacheTo walks the entries through Hottest = evictionOrder: the whole walk happens under the eviction lock -/
theorem skeleton_cache_evictionOrder : Gen.Skeleton.cache_evictionOrder = Conc.DrainSkeleton.cache_evictionOrder := rfl
theorem skeleton_SaveCacheTo : Gen.Skeleton.SaveCacheTo = Conc.PersistSkeleton.SaveCacheTo := rfl

/-! ### LoadCacheFrom's arithmetic, regenerated from persistence.go -/

/-- the duration LoadCacheFrom hands to SetExpiresAfter / SetRefreshableAfter (`max(1, saved - now)` in int64), as an integer:
    the one place where the subtraction may wrap -/
theorem restored_duration_toInt (saved now : BitVec 64) :
    (Bv.smax (1#64) (saved - now)).toInt = max 1 ((saved.toInt - now.toInt).bmod (2 ^ 64)) := by
  rw [Bv.toInt_smax, BitVec.toInt_sub]
  rfl

/-- the duration handed to SetExpiresAfter / SetRefreshableAfter is at least one nanosecond for EVERY saved deadline and
    clock reading — those setters ignore durations ≤ 0, so a deadline that has passed is restored as due, never skipped -/
theorem c19_gen_restored_duration_positive (saved now : BitVec 64) :
    0 < (Gen.PersistSites.LoadCacheFrom_a8 saved now).toInt ∧ 0 < (Gen.PersistSites.LoadCacheFrom_a9 saved now).toInt := by
  have key : 0 < (Bv.smax (1#64) (saved - now)).toInt := by
    rw [restored_duration_toInt]
    omega
  exact ⟨key, key⟩

/-- it is `max 1 (saved - now)`, the expression `restoredDeadline` is built from (no wrap: both readings within ±2^62) -/
theorem c19_gen_restored_duration (saved now : BitVec 64) (hs : -2 ^ 62 ≤ saved.toInt ∧ saved.toInt < 2 ^ 62)
    (hn : -2 ^ 62 ≤ now.toInt ∧ now.toInt < 2 ^ 62) :
    (Gen.PersistSites.LoadCacheFrom_a8 saved now).toInt = max 1 (saved.toInt - now.toInt) ∧
    (Gen.PersistSites.LoadCacheFrom_a9 saved now).toInt = max 1 (saved.toInt - now.toInt) := by
  have key : (Bv.smax (1#64) (saved - now)).toInt = max 1 (saved.toInt - now.toInt) := by
    rw [restored_duration_toInt, Int.bmod_eq_of_le (by omega) (by omega)]
  exact ⟨key, key⟩

/-- **F20 (open known finding)**: outside that range the statement is false of the code.  When the saved deadline lies 2^63 ns
    or more ahead of the loading cache's clock, the int64 subtraction wraps negative and the duration handed to
    SetExpiresAfter / SetRefreshableAfter is ONE nanosecond: the entry is restored as due right after the load, not at its saved
    deadline (C19 quantifies over all clock offsets).  Replayed on the implementation by corpus/seq/F20_* and the SEQ persist
    profile's wrapLoad scripts; listed in KNOWN_FINDINGS; `c19_gen_restored_duration` above is the `_partial` statement. -/
theorem c19_restored_duration_wraps (saved now : BitVec 64) (h : saved.toInt - now.toInt ≥ 2 ^ 63) :
    (Gen.PersistSites.LoadCacheFrom_a8 saved now).toInt = 1 ∧ (Gen.PersistSites.LoadCacheFrom_a9 saved now).toInt = 1 := by
  have hs := BitVec.toInt_lt (x := saved)
  have hn := BitVec.le_toInt (x := now)
  have key : (Bv.smax (1#64) (saved - now)).toInt = 1 := by
    rw [restored_duration_toInt, Int.bmod_def]
    omega
  exact ⟨key, key⟩

/-- the witness of corpus/seq/F20_load_duration_wrap.script: saved deadline 2^62 + 1000 + 1 h, load clock -2^62 + 1808 -/
example : (Gen.PersistSites.LoadCacheFrom_a8 4611689618427388904#64 (BitVec.ofInt 64 (-4611686018427386096))).toInt = 1 := by decide

/-- an entry is skipped iff the cache expires entries and the saved deadline is at or before the load instant (`≤`: a deadline
    equal to the load instant is expired), and deadlines that mean "never" are not restored -/
theorem c19_gen_filter (w : Bool) (saved now : BitVec 64) :
    Gen.PersistSites.LoadCacheFrom_c4 w saved now = (w && decide (saved.toInt ≤ now.toInt)) ∧
    Gen.PersistSites.LoadCacheFrom_c7 w saved = (w && (saved != 9223372036854775807#64)) :=
  ⟨rfl, rfl⟩

/-- the judge's account of LoadCacheFrom's warm-up reads (two while the loaded weight is within a quarter of the limit, one
    within half — Spec.Check, op `loadfrom`) uses the code's thresholds, and the limit is the smaller of the saved and the
    target's maximum; the loop runs while the loaded weight is below it -/
theorem c19_gen_thresholds (saved target size lim : BitVec 64) :
    Gen.PersistSites.LoadCacheFrom_a2 target saved = Bv.umin saved target ∧
    Gen.PersistSites.LoadCacheFrom_a3 lim = lim / 4#64 ∧
    Gen.PersistSites.LoadCacheFrom_a4 (Gen.PersistSites.LoadCacheFrom_a3 lim) = 2#64 * (lim / 4#64) ∧
    Gen.PersistSites.LoadCacheFrom_c1 lim size = BitVec.ult size lim ∧
    Gen.PersistSites.LoadCacheFrom_c5 (lim / 4#64) size = BitVec.ule size (lim / 4#64) ∧
    Gen.PersistSites.LoadCacheFrom_c6 (2#64 * (lim / 4#64)) size = BitVec.ule size (2#64 * (lim / 4#64)) :=
  ⟨rfl, rfl, rfl, rfl, rfl, rfl⟩

end OtterVerif.Props.C19
