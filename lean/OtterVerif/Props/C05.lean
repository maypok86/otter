/-
  Props.C05 — "No entry is present but unknown to the eviction policy, and no removed entry is still tracked by it … for
  all orders in which write events reach the maintenance thread relative to each other and to evictions."

  The theorems are about Impl.Policy (the transcription of policy.go that UNIT-policy runs in lock-step with the real
  policy, out-of-order events included).  `Reach S p` (Proofs.PolicyLink) is the set of policy states reachable by ANY
  sequence of: node creation and removal by the table, the add/update/delete write events in ANY order, reads,
  evictNodes, climb, SetMaximum.  The single ordering assumption is that each node is introduced at most once (the table
  emits exactly one add or update event per node; the generated trace of UNIT-policy/CONC-policy obeys it by construction).
  No bound on the number of events, nodes, weights or maxima.
-/
import OtterVerif.Proofs.PolicyWeight

namespace OtterVerif.Props.C05
open OtterVerif.Impl.Policy

/-- no removed entry is still tracked: a node linked in any policy deque is never dead, and it has been introduced -/
theorem c05_linked_not_dead {S : List Nat} {p : Policy} (h : Reach S p) (id : Nat) (hl : Linked p id) :
    (p.node id).st ≠ .dead ∧ id ∈ S :=
  let r := (reach_inv h).a id ((linked_iff_all p id).mp hl)
  ⟨r.2, r.1⟩

/-- no entry is present but unknown: once its introducing event has been processed, a node that is still alive (still
    mapped by the table) is linked in a deque — whatever happened in between (evictions, reordered events of other nodes) -/
theorem c05_alive_is_linked {S : List Nat} {p : Policy} (h : Reach S p) (id : Nat) (hs : id ∈ S)
    (ha : (p.node id).st = .alive) : Linked p id :=
  (linked_iff_all p id).mpr ((reach_inv h).b id hs ha)

/-- the orderings enumerate each entry once: no node is linked twice (within a deque or across deques) -/
theorem c05_linked_once {S : List Nat} {p : Policy} (h : Reach S p) :
    (p.window ++ (p.probation ++ p.prot)).Nodup :=
  (reach_inv h).c

/-- at quiescence (every removed node's delete event has been processed, so no introduced node is merely retired) the
    deques hold exactly the introduced nodes that are alive -/
theorem c05_quiescent_exact {S : List Nat} {p : Policy} (h : Reach S p)
    (hq : ∀ id, id ∈ S → (p.node id).st ≠ .alive → (p.node id).st = .dead) (id : Nat) :
    Linked p id ↔ (id ∈ S ∧ (p.node id).st = .alive) :=
  (linked_iff_all p id).trans ((reach_inv h).linked_iff_alive_of_quiescent hq id)

/-- the delete event always leaves the node dead and unlinked, also when it overtakes the node's add event -/
theorem c05_delete_final {S : List Nat} {p : Policy} (h : Reach S p) (id : Nat) :
    ((delete p id).node id).st = .dead ∧ ¬ Linked (delete p id) id := by
  refine ⟨makeDead_dead p id, fun hl => ?_⟩
  have := c05_linked_not_dead (Reach.delete id h) id hl
  exact this.1 (makeDead_dead p id)

/-- WeightedSize equals the sum of the weights of the entries the policy tracks — as uint64 arithmetic, exactly as in Go —
    in every reachable state: no order of add/update/delete events and evictions can leave weight uncounted or counted twice -/
theorem c05_weightedSize_is_sum {S : List Nat} {p : Policy} (h : Reach S p) :
    p.weightedSize = wsum p (p.window ++ (p.probation ++ p.prot)) :=
  reach_winv h

/-- when nothing is tracked the counter is zero: no order of events leaves weight behind in it, or an underflowed counter -/
theorem c05_empty_is_zero {S : List Nat} {p : Policy} (h : Reach S p)
    (he : p.window = [] ∧ p.probation = [] ∧ p.prot = []) : p.weightedSize = 0 := by
  have := reach_winv h
  unfold WInv all at this
  rw [this, he.1, he.2.1, he.2.2]; rfl

/-! ### Non-vacuity: a concrete reachable state with an out-of-order history -/

def q0 : Policy := { maximum := 10, windowMaximum := 1 }

/-- add 1; (delete 3 overtakes add 3); update 2 replaces 1; add 3 arrives late -/
theorem c05_trace_reachable : Reach [3, 2, 1]
    (add (update (mkNode (retire (delete (mkNode (add (mkNode q0 1 5 2 .alive) 1) 3 7 1 .alive) 3) 1) 2 5 3 .alive) 2 1) 3) :=
  Reach.add 3
    (Reach.update 2 1
      (Reach.mk 2 5 3 .alive
        (Reach.retire 1
          (Reach.delete 3
            (Reach.mk 3 7 1 .alive
              (Reach.add 1 (Reach.mk 1 5 2 .alive (Reach.init q0 rfl rfl rfl rfl) (by simp)) (by simp))
              (by simp))))
        (by simp))
      (by simp))
    (by simp)

end OtterVerif.Props.C05
