/-
  C13 / C05 — the timer wheel and the table, jointly, over every history of insertions, removals, deadline changes and
  maintenance runs with a monotone clock.

  Proofs.WheelJoint: the wheel loses nothing — Add schedules the node and keeps every other node scheduled, Delete unschedules
  only its node, DeleteExpired(T) keeps a scheduled node scheduled (with its deadline) or hands it to the expiration callback.
  Hence: every mapped node with a deadline is scheduled at every point (C05: no entry present but unknown to the expiration
  policy), and after maintenance at T no mapped node has both its deadline and its scheduling a full tick behind T (C13).
-/
import OtterVerif.Proofs.WheelJoint

namespace OtterVerif.Props.C13Joint
open OtterVerif OtterVerif.Impl.Wheel

structure WState where
  w : Wheel := {}
  live : List (Nat × Nat) := []

/-- one step of the cache as the table and the timer wheel see it (preconditions: an identity is used once, deadlines and
    clock readings are 64-bit values, the clock does not move backwards).  A relation and not a function of the state: a call
    whose precondition fails is no step of the code, and a function would have to give it a junk result (`if d < 2^64 …
    else`) that every theorem over histories would then have to exclude again -/
inductive WStep : WState → WState → Prop
  /-- a new or replacing node n with deadline d (its write event replayed) -/
  | insert (s s' : WState) (n d : Nat) : d < two64 → n ∉ s.live.map (·.1) →
      s'.w = add s.w n d → s'.live = (n, d) :: s.live → WStep s s'
  /-- node n replaced, invalidated or evicted for size -/
  | remove (s s' : WState) (n : Nat) : s'.w = delete s.w n → s'.live = s.live.filter (·.1 != n) → WStep s s'
  /-- a read moved the deadline of node n: the code unlinks and re-schedules it -/
  | move (s s' : WState) (n d : Nat) : d < two64 →
      s'.w = add (delete s.w n) n d → s'.live = (n, d) :: s.live.filter (·.1 != n) → WStep s s'
  /-- maintenance at clock reading T -/
  | sweep (s s' : WState) (T : Nat) : s.w.time ≤ T → T < two64 →
      s'.w = (deleteExpired s.w T).1 → s'.live = sweepLive s.w T s.live → WStep s s'

inductive WRun : WState → WState → Prop
  | done (s : WState) : WRun s s
  | step {s s' s'' : WState} : WStep s s' → WRun s' s'' → WRun s s''

theorem wstep_inv {s s' : WState} (st : WStep s s') (h : WJ s.w s.live) : WJ s'.w s'.live := by
  cases st with
  | insert n d hd hn e1 e2 => rw [e1, e2]; exact wj_insert h n d hd hn
  | remove n e1 e2 => rw [e1, e2]; exact wj_remove h n
  | move n d hd e1 e2 =>
    -- the node takes its own place (`old := n`), so it need not be new to `live`
    rw [e1, e2]; exact wj_reinsert h (old := n) n d hd (Or.inr rfl)
  | sweep T hle hT e1 e2 => rw [e1, e2]; exact wj_sweep h T hle hT

theorem wrun_inv {s s' : WState} (r : WRun s s') (h : WJ s.w s.live) : WJ s'.w s'.live := by
  induction r with
  | done s => exact h
  | step st _ ih => exact ih (wstep_inv st h)

/-- C05: **every mapped node is scheduled, after every history** from the empty cache -/
theorem c05_mapped_is_scheduled {s : WState} (r : WRun {} s) : ∀ p ∈ s.live, Has s.w p.1 p.2 :=
  (wrun_inv r wj_init).sched

/-- C13: **after maintenance at T, following any history**: a node that is still mapped is scheduled with its deadline in a
    bucket that is correct for T; its effective time e (the later of the deadline and the wheel time at which it was scheduled)
    satisfies T's tick ≤ e's tick.  Contrapositive: an entry whose deadline and whose scheduling both lie a full tick before T
    has been handed to the expiration callback and unlinked -/
theorem c13_after_maintenance {s : WState} (r : WRun {} s) (T : Nat) (hle : s.w.time ≤ T) (hT : T < two64)
    (p : Nat × Nat) (hp : p ∈ sweepLive s.w T s.live) :
    ∃ x : Ent, x.id = p.1 ∧ x.d = p.2 ∧ x.d ≤ x.e ∧ T >>> shift 0 ≤ x.e >>> shift 0 :=
  c13_mapped_not_overdue (wrun_inv r wj_init) T hle hT p hp

/-- C13: the sweep loses nothing: what it does not keep scheduled it hands to the expiration callback -/
theorem c13_sweep_loses_nothing (w : Wheel) (T : Nat) (hr : WReach w) (hle : w.time ≤ T) (hT : T < two64) (n d : Nat)
    (h : Has w n d) : Has (deleteExpired w T).1 n d ∨ n ∈ (deleteExpired w T).2 :=
  deleteExpired_keptOrExpired (wreach_inv hr).2.1 T h

/-! ### non-vacuity: two timers (one second, one hour), a jump of three seconds -/
def t0 : Nat := wheelTime 0
def s2 : WState := { w := add (add {} 1 (t0 + 1000000000)) 2 (t0 + 3600000000000),
                     live := [(2, t0 + 3600000000000), (1, t0 + 1000000000)] }
example : WRun {} s2 :=
  WRun.step (WStep.insert {} { w := add {} 1 (t0 + 1000000000), live := [(1, t0 + 1000000000)] } 1 (t0 + 1000000000)
      (by decide) (by decide) rfl rfl)
    (WRun.step (WStep.insert _ s2 2 (t0 + 3600000000000) (by decide) (by decide) rfl rfl) (WRun.done _))
example : (sweepLive s2.w (t0 + 3000000000) s2.live).map (·.1) = [2] := by decide

end OtterVerif.Props.C13Joint
