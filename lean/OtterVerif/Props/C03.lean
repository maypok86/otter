/-
  C03 — An entry is never observable after its expiration deadline.

  On the Spec (tied to the code by the SEQ correspondence): for EVERY state, key and configuration,
  an entry whose deadline has been reached (`s.live k = none`, whether or not it is still
  physically present) is returned by no operation, reported as present/previously present by none,
  yielded by no iteration, and no operation other than a write or an installed load makes it
  visible again.  Regenerated ties: every node layout with expiration compares `expiresAt <= now`,
  and the persistence filter skips exactly the entries with `expiresAt <= now`.
-/
import OtterVerif.Proofs.MapLemmas
import OtterVerif.Gen.NodePred
import OtterVerif.Gen.Deadline

namespace OtterVerif.Props.C03
open OtterVerif OtterVerif.Spec

/-- `k` is not observable in `s`: absent, or present with `exp ≤ now` -/
def Dead (s : State) (k : Nat) : Prop := s.live k = none

theorem dead_iff (s : State) (k : Nat) : Dead s k ↔ ∀ e, s.phys k = some e → e.exp ≤ s.now := live_none

/-! ### No operation returns or reports a dead entry -/

theorem c03_getIfPresent (c : Cfg) (s : State) (k : Nat) (h : Dead s k) :
    (getIfPresent c s k).2 = .valOk 0 false := by
  rw [getIfPresent_none h]

theorem c03_getEntry (c : Cfg) (s : State) (k : Nat) (h : Dead s k) :
    (getEntry c s k).2 = .entry none := by
  unfold getEntry; rw [lookup_none h]

theorem c03_getEntryQuietly (c : Cfg) (s : State) (k : Nat) (h : Dead s k) :
    getEntryQuietly c s k = .entry none := by
  unfold getEntryQuietly; rw [show s.live k = none from h]

/-- Set does not report the dead value as "previously associated" -/
theorem c03_set (c : Cfg) (s : State) (k v : Nat) (h : Dead s k) :
    (Spec.set c s k v).2.1 = .valOk v true := by
  unfold Spec.set; rw [show s.live k = none from h]

theorem c03_setIfAbsent (c : Cfg) (s : State) (k v : Nat) (h : Dead s k) :
    (setIfAbsent c s k v).2.1 = .valOk v true := by
  unfold setIfAbsent; rw [show s.live k = none from h]

/-- Invalidate does not report the dead entry as invalidated -/
theorem c03_invalidate (s : State) (k : Nat) (h : Dead s k) :
    (invalidate s k).2.1 = .valOk 0 false := by
  unfold invalidate; rw [show s.live k = none from h]

/-- a compute callback is shown "absent" for a dead key: the action taken is the absent-branch's -/
theorem c03_compute_sees_absent (c : Cfg) (s : State) (k : Nat) (f a : Act) (h : Dead s k) :
    compute c s k f a = compute c s k a a := by
  unfold compute; rw [show s.live k = none from h]

/-- Cancel on a dead key returns "absent" -/
theorem c03_compute_cancel (c : Cfg) (s : State) (k : Nat) (h : Dead s k) :
    (computeStep c s k .cancel).2.1 = .valOk 0 false := by
  unfold computeStep
  simp only [show s.live k = none from h]
  cases s.phys k <;> rfl

/-- the counted lookup of Get/BulkGet/ComputeIf* is a miss -/
theorem c03_lookup_miss (c : Cfg) (s : State) (k : Nat) (h : Dead s k) :
    lookup c s k = (miss s, none) := lookup_none h

/-- iteration (All/Keys/Values/Hottest/Coldest, SaveCacheTo) yields live entries only -/
theorem c03_iteration (s : State) : ∀ p ∈ liveEntries s, p.2.exp > s.now :=
  fun _ hp => (mem_liveEntries.mp hp).2

/-! ### No resurrection: only a write or an installed load makes a key visible -/

theorem dead_put {s : State} {k k' : Nat} (e : Entry) (h : Dead s k') (he : k' = k → e.exp ≤ s.now) :
    Dead { s with m := put s.m k e } k' := by
  unfold Dead at *
  rw [live_put]
  split
  · rename_i hk
    simp [Option.filter, Entry.liveAt, Int.not_lt.mpr (he hk)]
  · exact h

theorem dead_erase {s s' : State} {k k' : Nat} (h : Dead s k') (hl : s'.live k' = if k' = k then none else s.live k') :
    Dead s' k' := by
  unfold Dead at *
  rw [hl, h, ite_self]

theorem c03_setExpiresAfter_no_resurrection (c : Cfg) (s : State) (k k' : Nat) (d : Int) (h : Dead s k') :
    Dead (setExpiresAfter c s k d) k' := by
  fun_cases setExpiresAfter c s k d with
  | case1 _ e he => exact dead_put _ h fun hk => nomatch (hk ▸ he).symm.trans h  -- only a live entry gets a new deadline
  | case2 | case3 => exact h

theorem c03_setRefreshableAfter_no_resurrection (c : Cfg) (s : State) (k k' : Nat) (d : Int) (h : Dead s k') :
    Dead (setRefreshableAfter c s k d) k' := by
  fun_cases setRefreshableAfter c s k d with
  | case1 _ e he => exact dead_put _ h fun hk => live_none.mp h e (hk ▸ he)  -- the expiration deadline is not touched
  | case2 | case3 => exact h

/-- a read of any key leaves every dead key dead -/
theorem c03_read_no_resurrection (c : Cfg) (s : State) (k k' : Nat) (h : Dead s k') :
    Dead (getIfPresent c s k).1 k' := by
  cases hl : s.live k with
  | none => rw [getIfPresent_none hl]; exact h
  | some e =>
    rw [getIfPresent_some hl]
    exact dead_put (s := hit s) _ h fun hk => nomatch (hk ▸ hl).symm.trans h

/-- the clock moving forward never revives anything -/
theorem c03_advance_no_resurrection (s : State) (k : Nat) (d : Int) (hd : 0 ≤ d) (h : Dead s k) :
    Dead (advance s d) k :=
  (dead_iff _ k).mpr fun e he => Int.le_trans ((dead_iff s k).mp h e he) (Int.le_add_of_nonneg_right hd)

/-- an invalidation never makes anything visible -/
theorem c03_invalidate_no_resurrection (s : State) (k k' : Nat) (h : Dead s k') :
    Dead (invalidate s k).1 k' :=
  dead_erase h (live_remove (s.clearInflight k) k .invalidation k')

/-- an automatic removal never makes anything visible -/
theorem c03_evict_no_resurrection (c : Cfg) (s s' : State) (ev : Event) (k' : Nat) (h : Dead s k')
    (he : evict c s ev = some s') : Dead s' k' := by
  obtain ⟨e, _, _, _, rfl⟩ := evict_some c s s' ev he
  exact dead_erase h (live_evictApply s ev e k')

/-! ### Regenerated ties -/

/-- every node layout with expiration decides "expired" by `expiresAt <= now` (signed) -/
theorem c03_hasExpired_layouts (e r now : BitVec 64) (a : Bool) :
    Gen.NodePred.HasExpired_BE e r a now = BitVec.sle e now ∧
    Gen.NodePred.HasExpired_BER e r a now = BitVec.sle e now ∧
    Gen.NodePred.HasExpired_BERW e r a now = BitVec.sle e now ∧
    Gen.NodePred.HasExpired_BEW e r a now = BitVec.sle e now ∧
    Gen.NodePred.HasExpired_BSE e r a now = BitVec.sle e now ∧
    Gen.NodePred.HasExpired_BSER e r a now = BitVec.sle e now :=
  ⟨rfl, rfl, rfl, rfl, rfl, rfl⟩

/-- layouts without expiration never expire -/
theorem c03_hasExpired_none (e r now : BitVec 64) (a : Bool) :
    Gen.NodePred.HasExpired_B e r a now = false ∧ Gen.NodePred.HasExpired_BR e r a now = false ∧
    Gen.NodePred.HasExpired_BRW e r a now = false ∧ Gen.NodePred.HasExpired_BS e r a now = false ∧
    Gen.NodePred.HasExpired_BSR e r a now = false ∧ Gen.NodePred.HasExpired_BW e r a now = false :=
  ⟨rfl, rfl, rfl, rfl, rfl, rfl⟩

/-- LoadCacheFrom skips exactly the entries that are dead at load time -/
theorem c03_load_filter (e now : Int) : Gen.Deadline.loadFilterSkips e now = decide (e ≤ now) :=
  rfl

/-! ### Non-vacuity: a physically present, expired entry -/
def sDead : State := { now := 100, m := [(1, { val := 7, weight := 1, exp := 100, ref := maxI64 })] }
example : Dead sDead 1 := by unfold Dead; decide
example : sDead.phys 1 ≠ none := by decide
example : (Spec.set {} sDead 1 9).2.1 = .valOk 9 true := by decide

end OtterVerif.Props.C03
