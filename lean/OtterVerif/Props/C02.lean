/-
  C02 — Concurrent key-value operations are linearizable.

  Each public operation has one atomic point on its key: a lock-free Get (a read) or one Compute on the key's bucket
  (an atomic read-modify-write, inside which the compute callback runs once and OnAtomicDeletion reports what is removed).
  The specification of an atomic point is Spec's per-key step (`Props.C01`).  On recorded histories of the real cache
  (CONC-lin) the judge `Lin.checkKey` decides, per key and exactly, whether the atomic points — each inside its operation's
  interval — form a sequential run of those steps.
  Here: the per-key semantics of the atomic steps (Spec level), and `Conc.Bucket`, which stands for one bucket chain of
  internal/hashmap/map.go at the level of the individual atomic loads and stores of Map.Get and Map.Compute, any number of
  readers, every schedule (tied to map.go by the skeleton equalities of `Props.C15` and by CONC-lin / CONC-resize).
  PARTIAL: the composition (cache operation = atomic point on the table + events) over ALL schedules is not mechanised —
  it is established for the recorded schedules, plus these per-layer theorems.
-/
import OtterVerif.Props.C01
import OtterVerif.Lin.Check
import OtterVerif.Conc.Bucket

namespace OtterVerif.Props.C02
open OtterVerif OtterVerif.Spec

/-- an atomic write step on key k does not change what any other key maps to (operations on different keys commute) -/
theorem c02_set_other_key (c : Cfg) (s : State) (k v k' : Nat) (h : k' ≠ k) :
    (Spec.set c s k v).1.phys k' = s.phys k' :=
  (phys_write c (s.clearInflight k) k v .normal k').trans (if_neg h)

theorem c02_invalidate_other_key (s : State) (k k' : Nat) (h : k' ≠ k) :
    (invalidate s k).1.phys k' = s.phys k' :=
  (phys_remove (s.clearInflight k) k .invalidation k').trans (if_neg h)

/-- two writes to different keys commute on the abstraction -/
theorem c02_sets_commute (c : Cfg) (s : State) (k1 v1 k2 v2 k' : Nat) (h : k1 ≠ k2) :
    ((Spec.set c (Spec.set c s k1 v1).1 k2 v2).1.phys k').map (·.val) =
    ((Spec.set c (Spec.set c s k2 v2).1 k1 v1).1.phys k').map (·.val) := by
  by_cases h1 : k' = k1
  · subst h1
    rw [c02_set_other_key c _ k2 v2 k' h, C01.c01_set_installs, C01.c01_set_installs]
  · by_cases h2 : k' = k2
    · subst h2
      rw [C01.c01_set_installs, c02_set_other_key c _ k1 v1 k' (Ne.symm h), C01.c01_set_installs]
    · rw [c02_set_other_key c _ k2 v2 k' h2, c02_set_other_key c _ k1 v1 k' h1,
          c02_set_other_key c _ k1 v1 k' h1, c02_set_other_key c _ k2 v2 k' h2]

/-- the compute step sees exactly the abstraction's value and its effect is decided by the callback's answer for it -/
theorem c02_compute_atomic (c : Cfg) (s : State) (k : Nat) (f a : Act) :
    compute c s k f a = compute c s k (match s.live k with | some _ => f | none => a) (match s.live k with | some _ => f | none => a) := by
  unfold compute; cases s.live k <;> rfl

/-! ### Lock-free readers against the locked writer, for every schedule (Conc.Bucket) -/
section bucket
open Conc.Bucket
variable (w : Nat) (h2 : Nat → Nat)

/-- **A lock-free Get is linearizable**: under every interleaving of any number of readers with the writer's single stores
    (insertion = meta byte then pointer, deletion = meta byte then nil, in-place replacement, bucket append, table
    replacement), a reader that returned v for key k was, in some reachable state of its own search, looking at a chain
    that mapped k to exactly v. -/
theorem c02_get_linearizable (hw : 0 < w) {s : St} (h : Reach w h2 s) {r k : Nat} {v : Option Node}
    (hd : s.m.rd r = .done k v) :
    ∃ s0, Reach w h2 s0 ∧ Run w h2 s0 s ∧ (s0.m.rd r).key = some k ∧ Abs h2 s0.m k v :=
  read_linearizable_run w h2 hw h hd

/-- a key is mapped by at most one slot, to one node -/
theorem c02_one_mapping_per_key (hw : 0 < w) {s : St} (h : Reach w h2 s) {k s1 s2 : Nat} {n1 n2 : Node}
    (h1 : Valid h2 s.m s1 k n1) (h2' : Valid h2 s.m s2 k n2) : s1 = s2 ∧ n1 = n2 := by
  cases (reach_inv hw h).1.uniq _ _ _ _ h1.2.1 h2'.2.1 (h1.2.2.trans h2'.2.2.symm)
  exact ⟨rfl, Option.some.inj (h1.2.1.symm.trans h2'.2.1)⟩

/-- every store of the writer changes the mapping of at most one key -/
theorem c02_store_touches_one_key (hw : 0 < w) {s : St} (h : Reach w h2 s) {m' : Mem} (hs : WStep w h2 s.m m') :
    ∃ k0, ∀ k, k ≠ k0 → ∀ v, Abs h2 m' k v ↔ Abs h2 s.m k v :=
  have ⟨_, k0, st⟩ := wstep_slot (reach_inv hw h).1 hs
  ⟨k0, fun _ hk v => st.abs v hk⟩

/-- an insertion has ONE atomic point, its pointer store: the meta byte written before it changes nothing -/
theorem c02_insert_atomic_point (hw : 0 < w) {s : St} (h : Reach w h2 s) :
    (∀ k sl n, s.m.wr = .idle → s.m.mt sl = none → ∀ k' v,
        Abs h2 { s.m with mt := upd s.m.mt sl (some (h2 k)), wr := .ins sl n } k' v ↔ Abs h2 s.m k' v) ∧
    (∀ sl n, s.m.wr = .ins sl n →
        Abs h2 s.m n.key none ∧ Abs h2 { s.m with ptr := upd s.m.ptr sl (some n), wr := .idle } n.key (some n)) :=
  ⟨fun _ _ _ hwr hm k' v => insBegin_silent w h2 (reach_inv hw h).1 hwr hm k' v,
   fun _ _ hwr => insEnd_effect w h2 (reach_inv hw h).1 hwr⟩

/-- a deletion has ONE atomic point, its meta store: the nil pointer written after it changes nothing -/
theorem c02_delete_atomic_point (hw : 0 < w) {s : St} (h : Reach w h2 s) :
    (∀ sl n, s.m.ptr sl = some n → s.m.mt sl = some (h2 n.key) →
        Abs h2 s.m n.key (some n) ∧ Abs h2 { s.m with mt := upd s.m.mt sl none, wr := .del sl } n.key none) ∧
    (∀ sl, s.m.wr = .del sl → ∀ k' v,
        Abs h2 { s.m with ptr := upd s.m.ptr sl none, wr := .idle } k' v ↔ Abs h2 s.m k' v) :=
  ⟨fun _ _ hp hm => delBegin_effect w h2 (reach_inv hw h).1 hp hm,
   fun _ hwr k' v => delEnd_silent w h2 (reach_inv hw h).1 hwr k' v⟩

/-- a table that has been replaced is never written again: a reader still walking it sees the contents at the replacement -/
theorem c02_replaced_table_frozen (hw : 0 < w) {s : St} (h : Reach w h2 s) (hl : s.m.live = false) {m' : Mem}
    (hs : WStep w h2 s.m m') : m'.mt = s.m.mt ∧ m'.ptr = s.m.ptr ∧ m'.len = s.m.len :=
  frozen w h2 (reach_inv hw h).1 hl hs

/-- non-vacuity, and the case the proof is about: key 7 is present, a reader loads the meta word, the key is deleted, the
    reader finds nil and returns "absent" — a reachable run (2 slots per bucket, constant h2) -/
theorem c02_bucket_example : ∃ s, Reach 2 (fun _ => 0) s ∧ s.m.rd 0 = .done 7 none := by
  have r0 := Reach.init (w := 2) (h2 := fun _ => 0)
  have r1 := Reach.step r0 (Step.wr (WStep.insBegin 7 0 ⟨7, 1⟩ rfl rfl rfl (by intro s n hv; cases hv.2.1) (by decide) rfl))
  have r2 := Reach.step r1 (Step.wr (WStep.insEnd 0 ⟨7, 1⟩ rfl))
  have r3 := Reach.step r2 (Step.start 0 7 rfl rfl)
  have r4 := Reach.step r3 (Step.rd (RStep.snap 0 7 0 rfl))
  have r5 := Reach.step r4 (Step.wr (WStep.delBegin 0 ⟨7, 1⟩ rfl rfl rfl rfl))
  have r6 := Reach.step r5 (Step.wr (WStep.delEnd 0 rfl))
  have r7 := Reach.step r6 (Step.rd (RStep.miss 0 7 0 0 [] rfl (by intro n hp; cases hp)))
  have r8 := Reach.step r7 (Step.rd (RStep.fin 0 7 0 rfl (by decide)))
  exact ⟨_, r8, rfl⟩

end bucket

/-! ### Non-vacuity -/
example : (Spec.set {} {} 1 5).1.phys 2 = none := by decide

end OtterVerif.Props.C02
