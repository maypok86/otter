/-
  C15 (and the table part of C02) — Concurrent table: nothing lost across resizes, weakly consistent iteration.

  Specification: a finite map (Spec's association list; `Proofs.MapLemmas`).  internal/hashmap/map.go is covered in layers:
  the meta-word constants over the regenerated Gen.Swar; `Conc.Resize` for the handshake between Compute and resize (one
  key, unboundedly many writers, any number of successive resizes); `Conc.Bucket` for one bucket chain with lock-free readers
  against the writer's single stores (see also `Props.C02`); the bucket-index and copy-range arithmetic of resize over the
  regenerated Gen.MapSites.
  Tie: the skeletons of Get / Compute / resize / copyBucket / copyBucketWithDestLock / Range / waitForResize (lock
  acquisition, resize re-check, publication order) are regenerated from map.go on every run and must equal the snapshot
  Conc.TableSkeleton; CONC-lin and CONC-resize on the real table; the SEQ engine drives the table through the cache.
  PARTIAL: the SWAR search is modelled as "the slots whose meta byte equals h2" (skeletons, CONC-lin, CONC-resize); Conc.Resize is
  per key and Conc.Bucket per chain, and the two are not composed mechanically.
-/
import OtterVerif.Proofs.MapLemmas
import OtterVerif.Gen.Swar
import OtterVerif.Gen.Skeleton
import OtterVerif.Conc.TableSkeleton
import OtterVerif.Conc.Resize
import OtterVerif.Conc.Bucket
import OtterVerif.Proofs.MapGen
import OtterVerif.Proofs.BvFacts
import OtterVerif.Pin.MapSites

namespace OtterVerif.Props.C15
open OtterVerif OtterVerif.Spec

/-- the specification is a map: a key inserted and not removed is found -/
theorem c15_inserted_found (m : List (Nat × Entry)) (k : Nat) (e : Entry) : find (put m k e) k = some e :=
  find_put_self m k e

theorem c15_other_keys_untouched (m : List (Nat × Entry)) (k k' : Nat) (e : Entry) (h : k' ≠ k) :
    find (put m k e) k' = find m k' ∧ find (erase m k) k' = find m k' :=
  ⟨find_put_other m k k' e h, find_erase_other m k k' h⟩

theorem c15_removed_not_found (m : List (Nat × Entry)) (k : Nat) : find (erase m k) k = none := find_erase_self m k

/-- size = number of keys: keys stay distinct under every update -/
theorem c15_keys_distinct (m : List (Nat × Entry)) (k : Nat) (e : Entry) (h : WF m) : WF (put m k e) ∧ WF (erase m k) :=
  ⟨WF_put m k e h, WF_erase m k h⟩

/-- the 7-bit hash fragment never equals the empty-slot marker 0x80 -/
theorem c15_h2_lt_empty (h : BitVec 64) : (Gen.Swar.h2 h).toNat < Gen.Swar.emptyMetaSlot.toNat := by
  have h1 : (h &&& 127#64).toNat ≤ 127 := Bv.toNat_and_le h 127#64
  have h2 := Nat.mod_le (h &&& 127#64).toNat (2 ^ 8)
  unfold Gen.Swar.h2
  rw [BitVec.toNat_setWidth]
  exact Nat.lt_of_le_of_lt (Nat.le_trans h2 h1) (by decide)

/-- an empty table's meta word is the empty marker in every byte -/
theorem c15_default_meta : Gen.Swar.defaultMeta = Gen.Swar.broadcast Gen.Swar.emptyMetaSlot := by decide

/-- only the five slot bytes take part in a lookup -/
theorem c15_meta_mask : Gen.Swar.defaultMetaMasked = Gen.Swar.defaultMeta &&& Gen.Swar.metaMask ∧ Gen.Swar.nodesPerMapBucket = 5 := by decide

theorem skeleton_Map_Get : Gen.Skeleton.Map_Get = Conc.TableSkeleton.Map_Get := rfl

theorem skeleton_Map_Compute : Gen.Skeleton.Map_Compute = Conc.TableSkeleton.Map_Compute := rfl

theorem skeleton_Map_resize : Gen.Skeleton.Map_resize = Conc.TableSkeleton.Map_resize := rfl

theorem skeleton_Map_waitForResize : Gen.Skeleton.Map_waitForResize = Conc.TableSkeleton.Map_waitForResize := rfl

theorem skeleton_Map_Range : Gen.Skeleton.Map_Range = Conc.TableSkeleton.Map_Range := rfl

theorem skeleton_Map_copyBucket : Gen.Skeleton.Map_copyBucket = Conc.TableSkeleton.Map_copyBucket := rfl

theorem skeleton_Map_copyBucketWithDestLock : Gen.Skeleton.Map_copyBucketWithDestLock = Conc.TableSkeleton.Map_copyBucketWithDestLock := rfl

theorem skeleton_Map_newerTableExists : Gen.Skeleton.Map_newerTableExists = Conc.TableSkeleton.Map_newerTableExists := rfl

theorem skeleton_Map_resizeInProgress : Gen.Skeleton.Map_resizeInProgress = Conc.TableSkeleton.Map_resizeInProgress := rfl

/-! ### The resize handshake, all interleavings (Conc.Resize) -/

/-- nothing is lost across resizes: in every reachable state the current table holds, for the key, exactly the value of the
    last completed write (the specification's value) — whatever the interleaving of writers with any number of resizes -/
theorem c15_no_lost_write {s : Conc.Resize.St} (h : Conc.Resize.Reach s) : s.abs = s.content s.cur :=
  (Conc.Resize.reach_inv h).val

/-- the resizer copies a bucket only when no writer is inside it, and no writer enters it afterwards until the new table is
    in use: while the copy exists (or the new table is published with the flag still up) nobody is past the flag check -/
theorem c15_copy_excludes_writers {s : Conc.Resize.St} (h : Conc.Resize.Reach s)
    (hc : s.copied = true ∨ s.published = true) : s.c1 s.cur = 0 ∧ s.passed s.cur = 0 :=
  ⟨((Conc.Resize.reach_inv h).quiet hc).1, ((Conc.Resize.reach_inv h).quiet hc).2.1⟩

/-- an update function is applied under mutual exclusion: at most one writer is inside a bucket's critical section -/
theorem c15_one_writer_per_bucket {s : Conc.Resize.St} (h : Conc.Resize.Reach s) (g : Nat) :
    s.locked g + s.c1 g + s.passed g ≤ 1 := by
  have := (Conc.Resize.reach_inv h).own g
  split at this <;> omega

/-- a writer that stores does so into the current table -/
theorem c15_store_goes_to_current_table {s : Conc.Resize.St} (h : Conc.Resize.Reach s) (g : Nat) (hp : 0 < s.passed g) :
    g = s.cur :=
  (Conc.Resize.reach_inv h).pc g hp

/-- non-vacuity: a write, a complete resize, and a write into the new table -/
theorem c15_resize_example : ∃ s, Conc.Resize.Reach s ∧ s.cur = 1 ∧ s.abs = some 7 ∧ s.content 1 = some 7 :=
  open Conc.Resize in
  ⟨_, Reach.step (Reach.step (Reach.step (Reach.step (Reach.step (Reach.step (Reach.step (Reach.step Reach.init
    (Step.wLock _ 0 (Nat.le_refl _) rfl)) (Step.wCheck1 _ 0 (by decide) rfl)) (Step.wCheck2 _ 0 (by decide) rfl))
    (Step.wApply _ 0 (some 7) (by decide))) (Step.rStart _ rfl)) (Step.rCopy _ rfl rfl rfl rfl))
    (Step.rPublish _ rfl rfl rfl)) (Step.rDone _ rfl rfl), rfl, rfl, rfl⟩

/-! ### One bucket chain: lock-free readers against the single stores of the locked writer (Conc.Bucket) -/

/-- a reader walking a chain while the writer inserts, replaces, deletes, appends buckets or the table is replaced returns
    what the chain mapped its key to in some state of its own search (every schedule, any number of readers) -/
theorem c15_lockfree_read_consistent (w : Nat) (h2 : Nat → Nat) (hw : 0 < w) {s : Conc.Bucket.St}
    (h : Conc.Bucket.Reach w h2 s) {r k : Nat} {v : Option Conc.Bucket.Node} (hd : s.m.rd r = .done k v) :
    ∃ s0, Conc.Bucket.Reach w h2 s0 ∧ Conc.Bucket.Run w h2 s0 s ∧ (s0.m.rd r).key = some k ∧ Conc.Bucket.Abs h2 s0.m k v :=
  Conc.Bucket.read_linearizable_run w h2 hw h hd

/-- Range's per-bucket copy (taken under the bucket lock) is exactly the chain's mapping: every non-nil pointer is a complete
    mapping of its key, no key occurs twice, and every mapped key is among the copied pointers -/
theorem c15_range_bucket_copy_exact (w : Nat) (h2 : Nat → Nat) (hw : 0 < w) {s : Conc.Bucket.St}
    (h : Conc.Bucket.Reach w h2 s) (hidle : s.m.wr = .idle) :
    (∀ sl n, s.m.ptr sl = some n → Conc.Bucket.Valid h2 s.m sl n.key n) ∧
    (∀ sl sl' n n', s.m.ptr sl = some n → s.m.ptr sl' = some n' → n.key = n'.key → sl = sl') ∧
    (∀ k n, Conc.Bucket.Abs h2 s.m k (some n) → ∃ sl, s.m.ptr sl = some n ∧ sl < s.m.len * w) :=
  have hi := (Conc.Bucket.reach_inv hw h).1
  ⟨fun _ _ hp => ⟨hi.mt_of_ptr hidle hp, hp, rfl⟩, hi.uniq, fun _ _ ⟨sl, hv⟩ => ⟨sl, hv.2.1, hi.mt_lt hv.1⟩⟩

/-- in every reachable chain: no key in two slots (`uniq`); a pointer without its meta byte only between the two stores of
    its own deletion (`coh`); between the two stores of an insertion the slot has its byte and no pointer, and no slot holds
    the key (`insI`); nothing beyond the last bucket (`beyond`) -/
theorem c15_chain_invariant (w : Nat) (h2 : Nat → Nat) (hw : 0 < w) {s : Conc.Bucket.St} (h : Conc.Bucket.Reach w h2 s) :
    Conc.Bucket.MInv w h2 s.m :=
  (Conc.Bucket.reach_inv hw h).1

/-! ### Non-vacuity -/
example : (Gen.Swar.h2 0xffffffffffffffff).toNat = 127 := by decide
example : find (put [] 3 { val := 1, weight := 1, exp := 0, ref := 0 }) 3 ≠ none := by decide

/-! ### The table copy of `resize`, over the regenerated arithmetic of internal/hashmap/map.go -/

/-- the parallel copy hands every source bucket to exactly one goroutine: for every table length on the parallel path and
    every processor count (also those that do not divide the table length), every index below tableLen lies in one
    goroutine's range [c*chunkSize, min((c+1)*chunkSize, tableLen)), and the ranges of different goroutines do not overlap -/
theorem c15_gen_parallel_copy_covers (procs tableLen : BitVec 64) (hp : procs.toNat < 2 ^ 31) (hn : tableLen.toNat < 2 ^ 31)
    (hpar : 128 ≤ tableLen.toNat) (i : Nat) (hi : i < tableLen.toNat) (chunks cs : BitVec 64)
    (hch : chunks = Gen.MapSites.Map_resize_a9 (Gen.MapSites.Map_resize_a8 procs tableLen))
    (hcsdef : cs = Gen.MapSites.Map_resize_a10 chunks tableLen) :
    (∃ c : Nat, c < chunks.toNat ∧
      (Gen.MapSites.Map_resize_g0_0 (BitVec.ofNat 64 c) cs).toNat ≤ i ∧
      i < (Gen.MapSites.Map_resize_g0_1 (BitVec.ofNat 64 c) cs tableLen).toNat) ∧
    (∀ c d : Nat, c < d → d < chunks.toNat →
      (Gen.MapSites.Map_resize_g0_1 (BitVec.ofNat 64 c) cs tableLen).toNat ≤ (Gen.MapSites.Map_resize_g0_0 (BitVec.ofNat 64 d) cs).toNat) := by
  -- on the parallel path (tableLen ≥ 128) there are between 1 and tableLen/64 goroutines
  obtain ⟨hc0, hcn, hcb⟩ : 0 < chunks.toNat ∧ chunks.toNat ≤ tableLen.toNat ∧ chunks.toNat < 2 ^ 31 := by
    have hk := Proofs.MapGen.chunks_eq procs tableLen hp (by omega)
    rw [← hch] at hk
    omega
  have hcs : cs.toNat = (tableLen.toNat + chunks.toNat - 1) / chunks.toNat :=
    hcsdef ▸ Proofs.MapGen.chunkSize_eq chunks tableLen hc0 hcb (by omega)
  have hcsn : cs.toNat ≤ tableLen.toNat := hcs ▸ Proofs.MapGen.ceil_le _ _ hc0 (by omega)
  have hr (c : Nat) (hc : c < chunks.toNat) := hcs ▸ Proofs.MapGen.range_eq c cs tableLen (by omega) (by omega) (by omega)
  constructor
  · obtain ⟨c, hck, hlo, hhi⟩ := Proofs.MapGen.chunk_cover tableLen.toNat chunks.toNat hc0 i hi
    exact ⟨c, hck, (hr c hck).1 ▸ hlo, (hr c hck).2 ▸ hhi⟩
  · intro c d hcd hd
    rw [(hr c (by omega)).2, (hr d hd).1]
    exact Proofs.MapGen.chunk_disjoint _ _ _ _ hcd

/-- both copy loops run over the table that is current AFTER the resizing flag was won (`tableLen = len(table.buckets)`
    with `table := m.table.Load()`), not over the table the caller had looked at: the loser of a resize race copies the
    whole current table -/
theorem c15_gen_copy_bounds_current_table :
    Gen.MapSites.siteParams.lookup "Map_resize_c10" = some ["i", "tableLen"] ∧
    Gen.MapSites.siteParams.lookup "Map_resize_a2" = some ["len_table_buckets"] ∧
    Gen.MapSites.siteParams.lookup "Map_resize_g0_1" = some ["c", "chunkSize", "tableLen"] ∧
    (∀ i n : BitVec 64, Gen.MapSites.Map_resize_c10 i n = BitVec.slt i n) :=
  ⟨by decide, by decide, by decide, fun _ _ => rfl⟩

/-- one bucket-index formula at all four sites: where Get searches is where Compute wrote and where a resize copied to; for
    a power-of-two table it is h1(hash) mod len, inside the table -/
theorem c15_gen_bucket_index (len hash : BitVec 64) (k : Nat) (hk : k ≤ 62) (hlen : len.toNat = 2 ^ k) :
    let i := Gen.MapSites.Map_Compute_a6 (Gen.MapSites.Map_Compute_a3 hash) len
    Gen.MapSites.Map_Get_a4 (Gen.MapSites.Map_Get_a2 hash) len = i ∧
    Gen.MapSites.Map_copyBucket_a4 hash len = i ∧ Gen.MapSites.Map_copyBucketWithDestLock_a4 hash len = i ∧
    i.toNat = (Gen.MapSites.h_h1 hash).toNat % 2 ^ k ∧ i.toNat < len.toNat := by
  intro i
  have hc : i = Gen.MapSites.h_h1 hash &&& (len - 1#64) := BitVec.and_comm _ _
  exact ⟨rfl, rfl, rfl, hc ▸ Bv.toNat_and_pred _ len k hlen, hc ▸ Bv.toNat_and_pred_lt _ len (hlen ▸ Nat.two_pow_pos k)⟩

end OtterVerif.Props.C15
