/-
  C09 — A load never overwrites a newer write or invalidation.

  Specification level (every state; Props.C10): a superseded call installs nothing; every write / invalidation / eviction
  unregisters the call in flight; a write made while a load is running wins.
  All interleavings (Conc.Flight, one key, unboundedly many callers / writers / call objects): a call object whose record
  was removed from the call table by a Set / Invalidate / Compute / eviction (`kill`, executed inside the same bucket
  critical section as the write) never writes its result into the cache, however late its loader returns and whatever
  happens in between — the result is written only in the step that finds the call still registered (afterDeleteCall's
  `isCorrectCall`, i.e. deleteCall's compare-and-delete inside the cache bucket's critical section).
  Tie: skeletons of afterDeleteCall / deleteCall / delete / atomicSet / atomicDelete (Props.C08), SEQ load profile with writes
  nested inside loaders and between loader return and installation (clock hook), CONC-flight supersede rounds.
-/
import OtterVerif.Conc.Flight
import OtterVerif.Conc.EventsSkeleton
import OtterVerif.Conc.FlightSkeleton
import OtterVerif.Gen.Skeleton

namespace OtterVerif.Props.C09
open OtterVerif.Conc.Flight

/-- a call removed by a write / invalidation / eviction never writes its result -/
theorem c09_superseded_load_never_installs {s : St} (h : Reach s) (i : Nat) (ho : s.orphaned i = true) :
    s.installed i = false :=
  Bool.eq_false_iff.mpr fun hi => nomatch ho.symm.trans ((reach_inv h).inst i hi).1

/-- only a load that has finished writes a result -/
theorem c09_install_needs_finished_load {s : St} (h : Reach s) (i : Nat) (hi : s.installed i = true) :
    s.phase i = .finishing ∨ s.phase i = .done := by
  have := (reach_inv h).inst i hi
  cases hp : s.phase i with
  | fresh => exact absurd hp this.2.2
  | loading => exact absurd hp this.2.1
  | finishing => exact Or.inl rfl
  | done => exact Or.inr rfl

/-- the step in which a result is written is exactly the one that finds the call still registered -/
theorem c09_install_iff_still_registered (s : St) (i : Nat) (hp : s.phase i = .loading) (hn : s.installed i = false) :
    ∀ s', s' = { s with cur := if s.cur = some i then none else s.cur, phase := upd s.phase i .finishing,
                        installed := if s.cur = some i then upd s.installed i true else s.installed } →
      (s'.installed i = true ↔ s.cur = some i) := by
  rintro _ rfl
  by_cases hc : s.cur = some i <;> simp [hc, hn]

/-- non-vacuity: load 0 is superseded by an invalidation, load 1 installs -/
theorem c09_example : ∃ s, Reach s ∧ s.orphaned 0 = true ∧ s.installed 0 = false ∧ s.installed 1 = true :=
  ⟨_, Reach.step (Reach.step (Reach.step (Reach.step (Reach.step Reach.init (Step.create {} rfl)) (Step.kill _))
    (Step.create _ rfl)) (Step.unregister _ 0 rfl)) (Step.unregister _ 1 rfl), rfl, rfl, rfl⟩

/-! ### The model's `kill` step is the code's: EVERY write, invalidation and removal unregisters the key's call, unconditionally
     (skeletons regenerated from /repo on every run: `call delete` under `if cl==nil` only, before anything else) -/
theorem skeleton_cache_atomicSet : Gen.Skeleton.cache_atomicSet = Conc.EventsSkeleton.cache_atomicSet := rfl
theorem skeleton_cache_atomicDelete : Gen.Skeleton.cache_atomicDelete = Conc.EventsSkeleton.cache_atomicDelete := rfl
theorem skeleton_cache_deleteNodeFromMap : Gen.Skeleton.cache_deleteNodeFromMap = Conc.EventsSkeleton.cache_deleteNodeFromMap := rfl
theorem skeleton_group_delete : Gen.Skeleton.group_delete = Conc.FlightSkeleton.group_delete := rfl
theorem skeleton_group_deleteCall : Gen.Skeleton.group_deleteCall = Conc.FlightSkeleton.group_deleteCall := rfl
theorem skeleton_cache_afterDeleteCall : Gen.Skeleton.cache_afterDeleteCall = Conc.FlightSkeleton.cache_afterDeleteCall := rfl

end OtterVerif.Props.C09
