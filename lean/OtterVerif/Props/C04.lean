/-
  C04 / C05 — Size bound at quiescence; policy bookkeeping agrees with the map.

  Model: Impl.Policy (transcription of policy.go over list deques, uint64 counters with wrap-around, sketch and
  admission), exact against the real policy after every call (UNIT-policy: in-order and out-of-order event
  sequences, hashes and random draws reported).  On every run the audit "linked nodes = mapped nodes, no dead node
  linked, each counter = weight sum, bound after evictNodes" is evaluated after every call (UNIT-policy) and at
  every quiescent point of real concurrent runs (CONC-policy) and the SEQ oracles compare WeightedSize / EstimatedSize /
  Hottest / Coldest / the bound with the Spec.
  The theorems about a single call hold for every policy state and every node; the bound holds over ALL event orders
  (Proofs.PolicyLink.Reach).  The model's loop bound (4n+16 iterations; the code's loop is unbounded) is proven never to be
  reached (Proofs.PolicyFuel: a potential that every iteration decreases) — so the eviction loop of the model, like the
  code's, ends only when the bound holds or the victim pointer has walked all three queues; the driver checks the flag as well.
-/
import OtterVerif.Impl.Policy
import OtterVerif.Conc.PolicySkeleton
import OtterVerif.Gen.Skeleton
import OtterVerif.Proofs.PolicyFuel

namespace OtterVerif.Props.C04
open OtterVerif OtterVerif.Impl.Policy

/-- unlinking is idempotent on the counters: a node that is not linked costs nothing (no underflow, K2) -/
theorem c05_makeDead_unlinked_keeps_counters (p : Policy) (id : Nat) (h : dqContains p (p.node id).qt id = false) :
    (makeDead p id).weightedSize = p.weightedSize ∧ (makeDead p id).windowWeightedSize = p.windowWeightedSize ∧
    (makeDead p id).mainProtectedWeightedSize = p.mainProtectedWeightedSize := by
  unfold makeDead
  simp only [h, Bool.false_eq_true, ↓reduceIte]
  split <;> simp [Policy.setNode]

/-- … and leaves every deque as it is -/
theorem c05_makeDead_unlinked_keeps_deques (p : Policy) (id : Nat) (h : dqContains p (p.node id).qt id = false) :
    (makeDead p id).window = p.window ∧ (makeDead p id).probation = p.probation ∧ (makeDead p id).prot = p.prot := by
  unfold makeDead
  simp only [h, Bool.false_eq_true, ↓reduceIte]
  split <;> simp [Policy.setNode]

/-- after makeDead the node is in no deque (deques pairwise disjoint: the node occurs in at most one of them) -/
theorem c05_makeDead_unlinks (p : Policy) (id : Nat)
    (hdisj : ¬ (id ∈ p.window ∧ id ∈ p.probation) ∧ ¬ (id ∈ p.window ∧ id ∈ p.prot) ∧ ¬ (id ∈ p.probation ∧ id ∈ p.prot)) :
    linkedIn (makeDead p id) id = none := by
  have d := dqs_makeDead (p := p) (x := id) hdisj
  unfold linkedIn
  rw [d.1, d.2.1, d.2.2]
  -- every deque is filtered by `· != id`, so id is in none
  simp only [List.contains_eq_mem, List.mem_filter, bne_self_eq_false, Bool.false_eq_true, and_false, decide_false, ↓reduceIte]

/-- admission in the eviction loop never picks a zero-weight node: the step that evaluates a (victim, candidate) pair
    first skips zero-weight entries (one skip per iteration), so `evictNode` is reached only with non-zero weights -/
theorem c04_skip_rule (p : Policy) (v : Nat) (h : (p.node v).weight = 0) :
    ∀ c, (if (p.node v).weight == 0 then "skip victim" else if (p.node c).weight == 0 then "skip candidate" else "decide") = "skip victim" := by
  intro c; simp [h]

/-- an out-of-order add (the node was already replaced or removed) changes no deque and no weight counter -/
theorem c05_add_not_alive_noop (p : Policy) (id : Nat) (h : (p.node id).st ≠ .alive) :
    (add p id).window = p.window ∧ (add p id).probation = p.probation ∧ (add p id).prot = p.prot ∧
    (add p id).weightedSize = p.weightedSize ∧ (add p id).windowWeightedSize = p.windowWeightedSize := by
  have c := cnt_addPrefix p id
  have e := (addPrefix_spec p id).2
  rw [if_neg h, if_neg h] at e
  -- `add` stops after the counting
  rw [(add_eq p id).trans (if_pos (by simpa using h))]
  exact ⟨c.window, c.probation, c.prot, e.1, e.2⟩

/-! ### The bound, for every reachable policy state (all event orders) -/

/-- After evictNodes the policy is within its maximum — `weightedSize`, which is the sum of the weights of the tracked entries
    (c04_weightedSize_is_sum), does not exceed `maximum` — or every entry still tracked has weight zero (such entries are
    never removed for size reasons and do not count toward the bound).  Holds in every state reachable by any order of
    add/update/delete events, reads, SetMaximum (including lowering the maximum) and earlier evictions. -/
theorem c04_bound_after_evictNodes {S : List Nat} {p : Policy} (h : Reach S p) :
    (evictNodes p).weightedSize.toNat ≤ (evictNodes p).maximum.toNat ∨
    (∀ id, Linked (evictNodes p) id → ((evictNodes p).node id).weight = 0) :=
  .inl (evictNodes_le_maximum h)

/-- the eviction loop terminates by itself: the model's loop bound is never what ends it -/
theorem c04_eviction_loop_terminates {S : List Nat} {p : Policy} (h : Reach S p) : evictNodesRanOut p = false :=
  evictNodes_never_runs_out (reach_inv h).c

/-- the counter the bound is about is the sum of the weights of the tracked entries, in the state the eviction pass leaves -/
theorem c04_weightedSize_is_sum {S : List Nat} {p : Policy} (h : Reach S p) :
    (evictNodes p).weightedSize = wsum (evictNodes p) (all (evictNodes p)) :=
  reach_winv (Reach.evict h)

/-- entries of weight zero are never removed for size reasons: every node evictNodes hands to the eviction callback has a
    non-zero weight -/
theorem c04_zero_weight_never_evicted (p : Policy) (x : Nat) (hx : x ∈ (evictNodes p).evicted) (hnew : x ∉ p.evicted) :
    (p.node x).weight ≠ 0 :=
  (evictNodes_nonzero p x hx).resolve_left hnew

/-- an entry heavier than the maximum is not retained: `add` hands it straight to the eviction callback and leaves it unlinked
    and dead -/
theorem c04_oversized_not_retained {S : List Nat} {p : Policy} (h : Reach S p) (id : Nat) (hs : id ∉ S)
    (halive : (p.node id).st = .alive) (hbig : BitVec.ult (addPrefix p id).maximum (w64 (p.node id).weight) = true) :
    ¬ Linked (add p id) id ∧ ((add p id).node id).st = .dead := by
  have hd : ((add p id).node id).st = .dead := by
    have c := add_case p id
    generalize add p id = r at c ⊢
    cases c with
    | skip ha => exact absurd halive ha
    | evict => exact evictNode_dead _ id
    | link _ hb => rw [(cnt_addPrefix p id).maximum, hb] at hbig; cases hbig
  refine ⟨fun hl => ?_, hd⟩
  have := (reach_inv (Reach.add id h hs)).a id ((linked_iff_all _ id).mp hl)
  exact this.2 hd

/-! ### Non-vacuity -/
def p0 : Policy := { nodes := [{ id := 1, key := 5, weight := 2 }], window := [1], weightedSize := 2, windowWeightedSize := 2, maximum := 10, windowMaximum := 1 }
example : dqContains p0 (p0.node 1).qt 1 = true := by decide
example : (makeDead p0 1).weightedSize = 0 ∧ (makeDead p0 1).window = [] := by decide

/-! ### The eviction decision has the shape the model follows (skeletons regenerated from policy.go on every run) -/
theorem skeleton_policy_evictFromMain : Gen.Skeleton.policy_evictFromMain = Conc.PolicySkeleton.policy_evictFromMain := rfl
theorem skeleton_policy_evictFromWindow : Gen.Skeleton.policy_evictFromWindow = Conc.PolicySkeleton.policy_evictFromWindow := rfl
theorem skeleton_policy_evictNodes : Gen.Skeleton.policy_evictNodes = Conc.PolicySkeleton.policy_evictNodes := rfl
theorem skeleton_policy_admit : Gen.Skeleton.policy_admit = Conc.PolicySkeleton.policy_admit := rfl

end OtterVerif.Props.C04
