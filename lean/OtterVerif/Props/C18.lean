/-
  C18 — Frequency estimates never under-count and admission follows them.

  Model: Impl.Sketch (transcription of sketch.go; mixers and masks regenerated from the source; exact
  differential on table digests after every call, UNIT-sketch).  The theorems hold for EVERY table, hash and counter value.
  Never under-count: within one sampling period (no aging step) the estimate of a key is at least min(15, number of times
  it was recorded), whatever else was recorded and in whatever order, for every table ensureCapacity can build (every
  requested maximum: RoundUpPowerOf264 is shown to produce a multiple of 8 whenever it is at least 8, so every counter
  position lies inside the table; Proofs.SketchCount); `increment` is exactly that recording step, followed by the aging
  step when the sample is full; the aging step halves every counter and hence every estimate.
  Admission: the decision is exactly "candidate strictly more popular, or (candidate ≥ 6 and the 1/128 random draw)".
-/
import OtterVerif.Impl.Sketch
import OtterVerif.Conc.PolicySkeleton
import OtterVerif.Gen.Skeleton
import OtterVerif.Proofs.Nibble
import OtterVerif.Proofs.SketchCount
import OtterVerif.Proofs.SketchGen
import OtterVerif.Pin.SketchSites

namespace OtterVerif.Props.C18
open OtterVerif OtterVerif.Impl.Sketch

/-- before frequency tracking is enabled every estimate is zero and recording changes nothing -/
theorem c18_uninitialised (s : Sketch) (h : BitVec 64) (hi : s.initialized = false) :
    frequencyH s h = 0 ∧ incrementH s h = s := by
  constructor
  · unfold frequencyH; simp [hi]
  · unfold incrementH
    rw [incrementNR_uninit s h hi]
    simp [hi]

/-- an estimate never exceeds 15 -/
theorem c18_le_15 (s : Sketch) (h : BitVec 64) : (frequencyH s h).toNat ≤ 15 := by
  cases hi : s.initialized with
  | false => rw [(c18_uninitialised s h hi).1]; decide
  | true =>
    exact Nat.le_trans ((le_frequencyH s h hi _).mp (Nat.le_refl _) _ List.mem_cons_self) (cnt_le_15 s _ _)

/-- `increment` and `frequency` address the same four counters -/
theorem c18_same_counters (s : Sketch) (h : BitVec 64) :
    counterPosUnrolled s h = (List.range 4).map (counterPos s h) :=
  counterPosUnrolled_eq_map s h

/-- admission follows the estimates -/
theorem c18_admit (c v : BitVec 64) (r : BitVec 32) :
    admitDecision c v r = true ↔ (v.toNat < c.toNat ∨ (6 ≤ c.toNat ∧ r &&& 127 = 0)) := by
  unfold admitDecision
  rw [BitVec.ult_eq_decide, BitVec.ule_eq_decide]
  by_cases h1 : v.toNat < c.toNat
  · simp [h1]
  · by_cases h2 : 6 ≤ c.toNat <;> simp [h1, h2]

/-- a candidate that is not strictly more popular and below the threshold is never admitted -/
theorem c18_cold_never_admitted (c v : BitVec 64) (r : BitVec 32) (h1 : c.toNat ≤ v.toNat) (h2 : c.toNat < 6) :
    admitDecision c v r = false :=
  Bool.eq_false_iff.mpr fun h => by have := (c18_admit c v r).mp h; omega

/-- saturating increment at nibble level: adding 16^j raises counter j (below 15) by one and changes no other counter of the
    word -/
theorem c18_incr_nibble (w j : Nat) (hj : j < 16) (hw : w < 2 ^ 64) (hc : Nibble.nib w j < 15) :
    Nibble.nib (w + 16 ^ j) j = Nibble.nib w j + 1 ∧ ∀ j', j' ≠ j → Nibble.nib (w + 16 ^ j) j' = Nibble.nib w j' :=
  ⟨Nibble.nib_incr_self w j hc, fun j' hj' => Nibble.nib_incr_other w j j' hj' hc⟩

/-! ### Never under-counts; aging halves -/

/-- `increment` = record (incrementNR), then age exactly when the sample became full -/
theorem c18_increment_shape (s : Sketch) (h : BitVec 64) :
    incrementH s h = incrementNR s h ∨ incrementH s h = reset (incrementNR s h) := by
  unfold incrementH
  simp only
  split
  · exact Or.inr rfl
  · exact Or.inl rfl

/-- within one sampling period the estimate of a key is at least the number of times it was recorded (capped at 15),
    regardless of what other keys were recorded and in which order — for every well-laid-out table -/
theorem c18_never_undercounts (s : Sketch) (hl : Layout s) (hi : s.initialized = true) (hs : List (BitVec 64)) (h : BitVec 64) :
    min 15 (occ h hs) ≤ (frequencyH (hs.foldl incrementNR s) h).toNat :=
  Nat.zero_add (occ h hs) ▸ foldl_incrementNR_atLeast hs h s 0 hl hi (Nat.zero_le _)

/-- … in particular for every table that ensureCapacity builds, for every requested maximum (powers of two or not) -/
theorem c18_never_undercounts_any_capacity (s : Sketch) (m : BitVec 64) (hch : (ensureCapacity s m).2 = true)
    (hs : List (BitVec 64)) (h : BitVec 64) :
    min 15 (occ h hs) ≤ (frequencyH (hs.foldl incrementNR (ensureCapacity s m).1) h).toNat :=
  c18_never_undercounts _ (ensureCapacity_layout s m hch).1 (ensureCapacity_layout s m hch).2 hs h

/-- the aging step halves every counter … -/
theorem c18_aging_halves_counters (s : Sketch) (slot idx : BitVec 64) (hj : idx.toNat < 16) :
    cnt (reset s) slot idx = cnt s slot idx / 2 :=
  reset_cnt s slot idx hj

/-- … and therefore every estimate: the least counter stays the least, halving being monotone -/
theorem c18_aging_halves_estimates (s : Sketch) (h : BitVec 64) :
    (frequencyH (reset s) h).toNat = (frequencyH s h).toNat / 2 := by
  cases hi : s.initialized with
  | false => rw [(c18_uninitialised s h hi).1, (c18_uninitialised (reset s) h hi).1]; decide
  | true =>
    -- both sides have the same lower bounds: n is below every halved counter iff 2n is below every counter
    have key (n : Nat) : n ≤ (frequencyH (reset s) h).toNat ↔ n ≤ (frequencyH s h).toNat / 2 := by
      rw [Nat.le_div_iff_mul_le (by decide), le_frequencyH s h hi, le_frequencyH (reset s) h hi]
      refine forall₂_congr fun p hp => ?_
      rw [reset_cnt s _ _ (counterPosUnrolled_idx s h p hp), Nat.le_div_iff_mul_le (by decide)]
    exact Nat.le_antisymm ((key _).mp (Nat.le_refl _)) ((key _).mpr (Nat.le_refl _))

/-! ### Non-vacuity -/
example : admitDecision 7 7 128 = true ∧ admitDecision 5 7 128 = false ∧ admitDecision 3 2 1 = true := by decide

/-! ### The eviction decision has the shape the model follows (skeletons regenerated from policy.go on every run) -/
theorem skeleton_policy_evictFromMain : Gen.Skeleton.policy_evictFromMain = Conc.PolicySkeleton.policy_evictFromMain := rfl
theorem skeleton_policy_evictFromWindow : Gen.Skeleton.policy_evictFromWindow = Conc.PolicySkeleton.policy_evictFromWindow := rfl
theorem skeleton_policy_evictNodes : Gen.Skeleton.policy_evictNodes = Conc.PolicySkeleton.policy_evictNodes := rfl
theorem skeleton_policy_admit : Gen.Skeleton.policy_admit = Conc.PolicySkeleton.policy_admit := rfl

/-! ### The sketch model's arithmetic is the code's (Gen.SketchSites, regenerated from sketch.go on every run) -/

open OtterVerif.Gen.SketchSites in
/-- the four counters a recording bumps and the four an estimate reads are computed as in the code: block from the spread
    hash and the block mask, byte i of the re-hashed value, its low bit for the word, bits 1-4 for the nibble -/
theorem c18_gen_positions (s : Impl.Sketch.Sketch) (bh : BitVec 64) :
    (Impl.Sketch.counterPosUnrolled s bh =
      let ch := sketch_increment_a1 bh
      let block := sketch_increment_a2 bh s.blockMask
      let h0 := sketch_increment_a3 ch
      let h1 := sketch_increment_a4 ch
      let h2 := sketch_increment_a5 ch
      let h3 := sketch_increment_a6 ch
      [(sketch_increment_a11 block h0, sketch_increment_a7 h0), (sketch_increment_a12 block h1, sketch_increment_a8 h1),
       (sketch_increment_a13 block h2, sketch_increment_a9 h2), (sketch_increment_a14 block h3, sketch_increment_a10 h3)]) ∧
    (∀ i, i < 4 → Impl.Sketch.counterPos s bh i =
      let ch := sketch_frequency_a2 bh
      let block := sketch_frequency_a3 bh s.blockMask
      let h := sketch_frequency_a5 ch (BitVec.ofNat 64 i)
      (sketch_frequency_a8 block (BitVec.ofNat 64 i) (sketch_frequency_a7 h), sketch_frequency_a6 h)) :=
  ⟨rfl, fun i hi => by
    have : i = 0 ∨ i = 1 ∨ i = 2 ∨ i = 3 := by omega
    rcases this with h | h | h | h <;> subst h <;> rfl⟩

open OtterVerif.Gen.SketchSites in
/-- saturating 4-bit increment, minimum of four reads starting from all ones, nibble-wise halving on reset, aging exactly
    when the sample is full -/
theorem c18_gen_counters (s : Impl.Sketch.Sketch) (i j slot index f w count size sample : BitVec 64) :
    (Impl.Sketch.incrementAt s i j =
      let offset := sketch_incrementAt_a0 j
      let mask := sketch_incrementAt_a1 offset
      let w := s.table.getD i.toNat 0
      if sketch_incrementAt_c0 mask w then
        ({ s with table := s.table.setIfInBounds i.toNat (sketch_incrementAt_u0 offset w) }, sketch_incrementAt_r0)
      else (s, sketch_incrementAt_r1)) ∧
    Impl.Sketch.readCount s slot index = sketch_frequency_a9 index (s.table.getD slot.toNat 0) ∧
    sketch_frequency_a10 (Impl.Sketch.readCount s slot index) f = Bv.umin f (Impl.Sketch.readCount s slot index) ∧
    sketch_frequency_a0 = BitVec.allOnes 64 ∧
    sketch_reset_a2 w = (w >>> 1) &&& Gen.SketchMix.resetMask ∧
    sketch_reset_u1 count w = count + Bv.onesCount64 (w &&& Gen.SketchMix.oneMask) ∧
    sketch_reset_a3 count size = (size - (count >>> 2)) >>> 1 ∧
    sketch_increment_c2 sample size = (size == sample) :=
  ⟨rfl, rfl, rfl, by decide, rfl, rfl, rfl, rfl⟩

open OtterVerif.Gen.SketchSites in
/-- ensureCapacity: a request that fits the table is a no-op (`≤`, so a request for exactly the present length keeps the
    counters); otherwise a zeroed table of the next power of two (at least 8) and a sample of ten times the maximum -/
theorem c18_gen_ensureCapacity (s : Impl.Sketch.Sketch) (maximumSize : BitVec 64) :
    Impl.Sketch.ensureCapacity s maximumSize =
      if sketch_ensureCapacity_c0 (BitVec.ofNat 64 s.table.size) maximumSize then (s, false)
      else
        let newSize := sketch_ensureCapacity_a0 maximumSize
        let newSize := if sketch_ensureCapacity_c2 newSize then sketch_ensureCapacity_a1 else newSize
        let sampleSize := if sketch_ensureCapacity_c3 maximumSize then sketch_ensureCapacity_a4 maximumSize else sketch_ensureCapacity_a3
        ({ table := Array.replicate newSize.toNat 0, sampleSize := sampleSize,
           blockMask := sketch_ensureCapacity_a5 newSize, size := sketch_ensureCapacity_a6, initialized := true }, true) :=
  rfl

end OtterVerif.Props.C18
