/-
  C12 — Expiration and refresh deadlines are computed exactly and without overflow.

  Regenerated tie: the deadline expression at each of the four call sites of
  cache_impl.go (`Gen.Deadline.*`, translated from the source on every run) equals the
  specification `satAdd now d` for EVERY 64-bit clock value (negative origins included) and
  EVERY duration in [1, MaxInt64]; hence a positive duration never yields a deadline at or before
  `now` (unless the clock itself sits at MaxInt64).
  Spec level: every write/read rule of the abstract map stores `satAdd now d` for the
  duration the calculator returned, and visibility is exactly `now < expiresAt`.
-/
import OtterVerif.Gen.Deadline
import OtterVerif.Proofs.MapLemmas

namespace OtterVerif.Props.C12
open OtterVerif OtterVerif.Spec

/-- `x` is a value of Go type int64 -/
def I64 (x : Int) : Prop := minI64 ≤ x ∧ x ≤ maxI64

theorem deadlineAfter_exact (now d : Int) (hn : I64 now) (hd0 : 0 ≤ d) (hd : d ≤ maxI64) :
    Gen.Deadline.h_deadlineAfter now d = satAdd now d := by
  unfold Gen.Deadline.h_deadlineAfter satAdd wrapS maxI64
  unfold I64 minI64 maxI64 at *
  simp only [decide_eq_true_eq, Nat.reduceSub, Int.reducePow]
  split <;> split <;> omega

/-- the four sites, as extracted from the source -/
theorem c12_site_afterRead (now d : Int) (hn : I64 now) (hd1 : 1 ≤ d) (hd : I64 d) :
    Gen.Deadline.setExpiresAfterRead_CASExpiresAt now d = satAdd now d :=
  deadlineAfter_exact now d hn (by omega) hd.2

theorem c12_site_afterWrite (now d : Int) (hn : I64 now) (hd1 : 1 ≤ d) (hd : I64 d) :
    Gen.Deadline.calcExpiresAtAfterWrite_SetExpiresAt now d = satAdd now d :=
  deadlineAfter_exact now d hn (by omega) hd.2

theorem c12_site_refreshAfterWrite (now d : Int) (hn : I64 now) (hd1 : 1 ≤ d) (hd : I64 d) :
    Gen.Deadline.calcRefreshableAt_SetRefreshableAt now d = satAdd now d :=
  deadlineAfter_exact now d hn (by omega) hd.2

theorem c12_site_setRefreshableAfter (now d : Int) (hn : I64 now) (hd1 : 1 ≤ d) (hd : I64 d) :
    Gen.Deadline.SetRefreshableAfter_SetRefreshableAt now d = satAdd now d :=
  deadlineAfter_exact now d hn (by omega) hd.2

/-- exactly these four sites exist: a new site must get its own theorem -/
theorem c12_sites_complete :
    Gen.Deadline.siteNames.map (·.1) =
      ["setExpiresAfterRead_CASExpiresAt", "SetRefreshableAfter_SetRefreshableAt",
       "calcExpiresAtAfterWrite_SetExpiresAt", "calcRefreshableAt_SetRefreshableAt"] := rfl

/-- the specification value never lies in the past: "effectively never" instead of wrapping -/
theorem satAdd_future (now d : Int) (hd : 1 ≤ d) (hn : now < maxI64) : now < satAdd now d := by
  unfold satAdd maxI64 at *; split <;> omega

theorem satAdd_le_max (now d : Int) : satAdd now d ≤ maxI64 := by
  unfold satAdd maxI64 at *; split <;> omega

theorem satAdd_exact (now d : Int) (h : now + d ≤ maxI64) : satAdd now d = now + d := by
  unfold satAdd; split <;> omega

/-- a positive duration at any of the sites never produces an already-expired entry -/
theorem c12_never_born_expired (now d : Int) (hn : I64 now) (hd1 : 1 ≤ d) (hd : I64 d) (hlt : now < maxI64) :
    now < Gen.Deadline.calcExpiresAtAfterWrite_SetExpiresAt now d := by
  rw [c12_site_afterWrite now d hn hd1 hd]; exact satAdd_future _ _ hd1 hlt

/-- the result is again an int64 (no wrap-around is ever stored) -/
theorem c12_site_in_range (now d : Int) (hn : I64 now) (hd1 : 1 ≤ d) (hd : I64 d) :
    I64 (Gen.Deadline.calcExpiresAtAfterWrite_SetExpiresAt now d) := by
  rw [c12_site_afterWrite now d hn hd1 hd]
  unfold I64 satAdd minI64 maxI64 at *; split <;> omega

/-! ### Spec level: deadlines per calculator kind -/

theorem spec_create_deadline (c : Cfg) (now : Int) (k : Nat) :
    expAfterWrite c now k none =
      match c.expiry with
      | .none => maxI64
      | .creating d | .writing d | .accessing d => satAdd now d
      | .custom => if c.expCreate.get k > 0 then satAdd now (c.expCreate.get k) else maxI64 := by
  unfold expAfterWrite; cases c.expiry <;> rfl

theorem spec_update_deadline_creating (c : Cfg) (now : Int) (k : Nat) (o : Entry) (d : Int)
    (h : c.expiry = .creating d) : expAfterWrite c now k (some o) = o.exp := by
  unfold expAfterWrite; rw [h]

theorem spec_update_deadline_writing (c : Cfg) (now : Int) (k : Nat) (o : Option Entry) (d : Int)
    (h : c.expiry = .writing d) : expAfterWrite c now k o = satAdd now d := by
  unfold expAfterWrite; rw [h]

theorem spec_read_deadline_accessing (c : Cfg) (now : Int) (k : Nat) (e : Entry) (d : Int)
    (h : c.expiry = .accessing d) : expAfterRead c now k e = satAdd now d := by
  unfold expAfterRead; rw [h]

theorem spec_read_deadline_keep (c : Cfg) (now : Int) (k : Nat) (e : Entry)
    (h : ∀ d, c.expiry ≠ .accessing d) (h2 : c.expiry ≠ .custom) : expAfterRead c now k e = e.exp := by
  unfold expAfterRead
  split
  · rename_i d heq; exact absurd heq (h d)
  · rename_i heq; exact absurd heq h2
  · rfl

/-- visibility is exactly "clock before the expiration time" -/
theorem spec_visible_iff (s : State) (k : Nat) (e : Entry) (h : s.phys k = some e) :
    (s.live k).isSome = true ↔ s.now < e.exp := by
  unfold State.live Entry.liveAt
  rw [h]
  simp [Option.filter]

/-- SetExpiresAfter override: the deadline becomes exactly now + d (saturating) -/
theorem spec_setExpiresAfter_exact (c : Cfg) (s : State) (k : Nat) (d : Int) (e : Entry)
    (hc : c.withExpiry = true) (hd : 0 < d) (hl : s.live k = some e) :
    ((setExpiresAfter c s k d).phys k).map (·.exp) = some (satAdd s.now d) := by
  unfold setExpiresAfter
  simp only [hc, hd, hl, decide_true, Bool.and_self, ↓reduceIte]
  exact congrArg (Option.map _) (find_put_self ..)

/-! ### Non-vacuity -/
example : I64 1800000000000000000 ∧ I64 9223372036854775807 ∧
    Gen.Deadline.calcExpiresAtAfterWrite_SetExpiresAt 1800000000000000000 9223372036854775807 = maxI64 := by
  refine ⟨by unfold I64 minI64 maxI64; omega, by unfold I64 minI64 maxI64; omega, ?_⟩
  rw [c12_site_afterWrite _ _ (by unfold I64 minI64 maxI64; omega) (by omega) (by unfold I64 minI64 maxI64; omega)]
  unfold satAdd maxI64; simp
example : Gen.Deadline.calcExpiresAtAfterWrite_SetExpiresAt (-5000) 100 = -4900 := by
  rw [c12_site_afterWrite _ _ (by unfold I64 minI64 maxI64; omega) (by omega) (by unfold I64 minI64 maxI64; omega)]
  unfold satAdd maxI64; simp

end OtterVerif.Props.C12
