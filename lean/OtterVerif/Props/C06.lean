/-
  C06 — Every removed value is reported exactly once with the right cause.

  Per-operation conservation on the Spec, for EVERY state (with distinct keys) and operation:
      values present after  ⊎  values reported  =  values present before  ⊎  values written
  as multisets of (key, value); the cause of a reported value is `Expiration` iff its deadline had
  passed, else what happened; values still present are never reported.  The SEQ judge additionally
  demands that the OnDeletion stream equals the atomic stream event for event (key, value, cause).

  Concurrent departures (every interleaving of writers, invalidations, evictions and task executions): Props.C06Conc over
  Conc.Events.
-/
import OtterVerif.Proofs.MapLemmas

namespace OtterVerif.Props.C06
open OtterVerif OtterVerif.Spec

/-- the (key, value) pairs physically present -/
def vals (m : List (Nat × Entry)) : List (Nat × Nat) := m.map (fun p => (p.1, p.2.val))

def evVals (evs : List Event) : List (Nat × Nat) := evs.map (fun e => (e.key, e.val))

/-- the cause is truthful: Expiration exactly when the deadline had passed -/
theorem c06_cause_truthful (e : Entry) (now : Int) (c : Cause) :
    (causeOf e now c = .expiration ↔ (e.exp ≤ now ∨ c = .expiration)) ∧ (now < e.exp → causeOf e now c = c) := by
  unfold causeOf Entry.liveAt
  by_cases h : now < e.exp
  · simp [h, Int.not_le.mpr h]
  · simp [h, Int.not_lt.mp h]

theorem vals_split (m : List (Nat × Entry)) (k : Nat) (h : WF m) :
    (vals (erase m k) ++ (match find m k with | some e => [(k, e.val)] | none => [])).Perm (vals m) := by
  have hp := (perm_key_split h k).map (fun p : Nat × Entry => (p.1, p.2.val))
  rw [List.map_append] at hp
  unfold find
  cases hf : m.find? (fun p => p.1 == k) with
  | none => rw [hf] at hp; exact hp
  | some p =>
    have hk : p.1 = k := by simpa using List.find?_some hf
    rw [hf] at hp
    exact hk ▸ hp

/-- Write: the new value is installed, the physically present predecessor (if any) is reported once,
    nothing else changes:  present' ⊎ reported = present ⊎ {(k, v)} -/
theorem c06_write_conserve (c : Cfg) (s : State) (k v : Nat) (wk : WriteKind) (h : WF s.m) :
    (vals (write c s k v wk).1.m ++ evVals (write c s k v wk).2).Perm ((k, v) :: vals s.m) := by
  have hev : evVals (write c s k v wk).2 = (match find s.m k with | some e => [(k, e.val)] | none => []) := by
    unfold write State.phys
    cases find s.m k <;> rfl
  show ((k, v) :: vals (erase s.m k) ++ _).Perm _
  rw [hev]
  exact (vals_split s.m k h).cons _

/-- Remove: the physically present entry (if any) is reported once and is gone -/
theorem c06_remove_conserve (s : State) (k : Nat) (c : Cause) (h : WF s.m) :
    (vals (remove s k c).1.m ++ evVals (remove s k c).2).Perm (vals s.m) := by
  have := vals_split s.m k h
  unfold remove State.phys
  cases hp : find s.m k with
  | none => exact (List.append_nil _).symm ▸ List.Perm.refl _
  | some o => rw [hp] at this; exact this

/-- InvalidateAll: every physically present value is reported exactly once, nothing stays -/
theorem c06_invalidateAll_conserve (s : State) :
    (invalidateAll s).1.m = [] ∧ evVals (invalidateAll s).2 = vals s.m := by
  unfold invalidateAll evVals vals
  simp [List.map_map, Function.comp_def]

/-- an accepted automatic removal: exactly the reported value disappears -/
theorem c06_evict_conserve (c : Cfg) (s s' : State) (ev : Event) (h : WF s.m) (he : evict c s ev = some s') :
    ((ev.key, ev.val) :: vals s'.m).Perm (vals s.m) := by
  obtain ⟨e, hp, hv, _, rfl⟩ := evict_some c s s' ev he
  have := vals_split s.m ev.key h
  unfold State.phys at hp
  rw [hp] at this
  exact hv ▸ List.perm_append_comm.trans this

/-- the distinct-keys invariant the statements above assume is preserved by the state changes they are about: a write, a
    removal, an accepted automatic removal, and the `touch` of a read -/
theorem c06_wf_write (c : Cfg) (s : State) (k v : Nat) (wk : WriteKind) (h : WF s.m) : WF (write c s k v wk).1.m :=
  WF_put _ _ _ h

theorem c06_wf_remove (s : State) (k : Nat) (c : Cause) (h : WF s.m) : WF (remove s k c).1.m := by
  rw [remove_fst]; exact WF_erase _ _ h

theorem c06_wf_evict (c : Cfg) (s s' : State) (ev : Event) (h : WF s.m) (he : evict c s ev = some s') : WF s'.m := by
  obtain ⟨e, _, _, _, rfl⟩ := evict_some c s s' ev he
  exact WF_erase _ _ h

theorem c06_wf_touch (c : Cfg) (s : State) (k : Nat) (e : Entry) (h : WF s.m) : WF (touch c s k e).m :=
  WF_put _ _ _ h

/-! ### Non-vacuity -/
def e1 : Entry := { val := 7, weight := 1, exp := 50, ref := maxI64 }
def s1 : State := { now := 100, m := [(1, e1)] }
example : WF s1.m := by unfold WF; decide
example : (write {} s1 1 9).2 = [⟨1, 7, .expiration⟩] := by decide

end OtterVerif.Props.C06
