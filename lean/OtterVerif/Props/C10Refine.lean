/-
  C09 / C10 / C11 — the completion of a load, as cache_impl.go decides it inside the table's critical section
  (afterDeleteCall → atomicSet / atomicDelete / calcRefreshableAt with the call in hand), refines Spec.finishCall.

  `correct` is the one input from outside the table: "this call is still the registered one for the key (or a volunteered
  key's fake call)" — Conc.Flight proves what makes it false (a write, invalidation or eviction unregistered the call).
  Given it, for every configuration, table, outcome and clock reading within ±2^62:
    * C09: a call that is no longer registered installs nothing and removes nothing;
    * C10: a value is installed by the write rule (deadlines of a creation or an update of the visible predecessor), a
      not-found outcome removes the entry and reports it, an error changes no value;
    * C11: a successful REFRESH of a visible entry uses RefreshAfterReload, a failed one moves at most the refresh
      deadline (RefreshAfterReloadFailure, in place), and never the value or the expiration deadline.
-/
import OtterVerif.Proofs.TableRefine
import OtterVerif.Proofs.TableTraceFull

namespace OtterVerif.Props.C10Refine
open OtterVerif OtterVerif.Impl.Table OtterVerif.Proofs.TableRefine
open OtterVerif.Spec (Cause Event Out Entry Cfg Kind)

theorem c10_finishCall_refines (c : Cfg) (s : Spec.State) (t : Tbl) (k cid : Nat) (isRefresh fake : Bool) (hs : s.m = absT t)
    (hnow : -4611686018427387904 < s.now ∧ s.now < 4611686018427387904)
    (hwf : ∀ o, lookup t k = some o → NodeOk k o) (hk1 : KindOk c.expiry) (hk2 : KindOk c.refresh) :
    let correct := fake || s.inflightOf k == some cid
    (∀ v, MapEq (absT (finishCall (cfgOf c) t k correct isRefresh (.ok v) s.now).1) (Spec.finishCall c s k cid isRefresh fake (.ok v)).1.m ∧
          (finishCall (cfgOf c) t k correct isRefresh (.ok v) s.now).2 = (Spec.finishCall c s k cid isRefresh fake (.ok v)).2) ∧
    (∀ v, MapEq (absT (finishCall (cfgOf c) t k correct isRefresh .notFound s.now).1) (Spec.finishCall c s k cid isRefresh fake (.notFound v)).1.m ∧
          (finishCall (cfgOf c) t k correct isRefresh .notFound s.now).2 = (Spec.finishCall c s k cid isRefresh fake (.notFound v)).2) ∧
    (∀ v, MapEq (absT (finishCall (cfgOf c) t k correct isRefresh .err s.now).1) (Spec.finishCall c s k cid isRefresh fake (.err v)).1.m ∧
          (finishCall (cfgOf c) t k correct isRefresh .err s.now).2 = (Spec.finishCall c s k cid isRefresh fake (.err v)).2) :=
  finishCall_refines c s t k cid isRefresh fake hs hnow hwf hk1 hk2

/-- C09 in the model's own terms: whatever the outcome, a call that is not the registered one leaves the table and reports
    nothing, except that a failed refresh may still move the refresh deadline of the entry it was reloading -/
theorem c09_superseded_call_changes_nothing (cfg : TCfg) (t : Tbl) (k : Nat) (isRefresh : Bool) (v : Nat) (now : Int) :
    finishCall cfg t k false isRefresh (.ok v) now = (t, []) ∧ finishCall cfg t k false isRefresh .notFound now = (t, []) :=
  ⟨rfl, rfl⟩

/-- C11: a failed load reports nothing, and the only node it can replace is the reloaded entry's own, with nothing but the
    refresh deadline changed -/
theorem c11_failed_load_touches_only_ref (cfg : TCfg) (t : Tbl) (k : Nat) (correct isRefresh : Bool) (now : Int) :
    (finishCall cfg t k correct isRefresh .err now).2 = [] ∧
    ((finishCall cfg t k correct isRefresh .err now).1 = t ∨
     ∃ x r, lookup t k = some x ∧ (finishCall cfg t k correct isRefresh .err now).1 = store t k { x with ref := r }) := by
  obtain ⟨hev, htab⟩ := finishCall_err cfg t k correct isRefresh now
  exact ⟨hev, htab.imp_right fun ⟨x, _, hl, _, _, ht⟩ => ⟨x, _, hl, ht⟩⟩

/-- **every history, with loads**: any sequence of Set / SetIfAbsent / Invalidate / GetIfPresent / Compute / clock advances,
    registrations of loads (single flight), completions of loads with any outcome (value, error, not found, panic; plain load or
    refresh; requested or volunteered key), SetExpiresAfter and SetRefreshableAfter, run on the transcription of the code from a
    state related to a spec state, returns at every step the spec's result and atomic deletion events and stays related (same
    map, same clock, same in-flight table).  In particular a completion installs its value only if no write, invalidation or
    Compute of the key came after the registration (C09), whatever else happened in between -/
theorem c10_every_history_with_loads (c : Cfg) (hk1 : KindOk c.expiry) (hk2 : KindOk c.refresh) (hr : ReadOk c)
    (ops : List Proofs.TableTraceFull.FOp) (is : Proofs.TableTraceFull.FState) (ss : Spec.State)
    (R : Proofs.TableTraceFull.FR is ss) (hclk : Proofs.TableTraceFull.FClockOk is.now ops) :
    (Proofs.TableTraceFull.firun c is ops).2 = (Proofs.TableTraceFull.fsrun c ss ops).2 ∧
    Proofs.TableTraceFull.FR (Proofs.TableTraceFull.firun c is ops).1 (Proofs.TableTraceFull.fsrun c ss ops).1 :=
  Proofs.TableTraceFull.full_history_sim c hk1 hk2 hr ops is ss R hclk

/-- the empty cache is related to the empty spec state -/
theorem c10_empty_related (now0 : Int) :
    Proofs.TableTraceFull.FR { now := now0, t := [], inflight := [] } { now := now0 } :=
  ⟨fun _ => rfl, rfl, rfl, Proofs.TableTrace.allOk_nil⟩

end OtterVerif.Props.C10Refine
