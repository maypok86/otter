/-
  C06 — "values written = values present + values reported", for every history of Impl.Table (the transcription of the
  per-key decision code of cache_impl.go that Props/C01Refine ties to the regenerated code), automatic removals at arbitrary
  points included; and the table stays a map (one node per key) throughout.
-/
import OtterVerif.Proofs.TableConserve

namespace OtterVerif.Props.C06Conserve
open OtterVerif OtterVerif.Impl.Table OtterVerif.Proofs.TableRefine OtterVerif.Proofs.TableTrace OtterVerif.Proofs.TableEvict
open OtterVerif.Proofs.TableConserve
open OtterVerif.Spec (Cause Event Out Entry Cfg Kind)

/-- C06: one step — present + reported grows by exactly what the step installed (0 or 1, read off the operation's own answer) -/
theorem c06_step_conserves (c : Cfg) (s : IState) (op : XOp) (h : NodupKeys s.t) :
    (xistep c s op).1.t.length + (xistep c s op).2.2.length = s.t.length + installs op (xistep c s op).2.1 ∧
    NodupKeys (xistep c s op).1.t :=
  xistep_conserves c s op h

/-- C06: **every history, from the empty cache: written = present + reported** -/
theorem c06_written_eq_present_plus_reported (c : Cfg) (ops : List XOp) (now0 : Int) :
    totalInstalls ops (xirun c { now := now0, t := [] } ops).2
      = (xirun c { now := now0, t := [] } ops).1.t.length + totalEvents (xirun c { now := now0, t := [] } ops).2 :=
  -- nothing is present at the start
  ((history_conserves c ops { now := now0, t := [] } nodup_nil).1.trans (Nat.zero_add _)).symm

/-- C06 / C01: the table is a map at every point of every history -/
theorem c06_one_node_per_key (c : Cfg) (ops : List XOp) (now0 : Int) :
    NodupKeys (xirun c { now := now0, t := [] } ops).1.t :=
  (history_conserves c ops { now := now0, t := [] } nodup_nil).2

/-- C06: a step reports at most one value -/
theorem c06_at_most_one_report (c : Cfg) (s : IState) (op : XOp) : (xistep c s op).2.2.length ≤ 1 :=
  eff_report_le (xistep_eff c s op)

/-! ### non-vacuity: three writes, a replacement, an expiry sweep, an invalidation -/
def exOps : List XOp :=
  [.base (.set 1 7), .base (.set 2 8), .base (.set 1 9), .base (.advance 11), .evict 2 true, .base (.invalidate 1), .base (.setIfAbsent 3 5)]
example : totalInstalls exOps (xirun { expiry := .writing 10 } { now := 0, t := [] } exOps).2 = 4
    ∧ (xirun { expiry := .writing 10 } { now := 0, t := [] } exOps).1.t.length = 1
    ∧ totalEvents (xirun { expiry := .writing 10 } { now := 0, t := [] } exOps).2 = 3 := by decide

end OtterVerif.Props.C06Conserve
