/-
  C04 / C05 / C07 — table and size policy, jointly, over every single-goroutine history (same-goroutine executor).

  Proofs.CacheJoint: a joint step = the table's change (node created alive / replaced or removed node retired), the replay of
  the write event on Impl.Policy, the eviction pass, the table unlinking what the eviction callback was called for.  After every
  sequence of such steps from the empty cache `JInv` holds — so the hypotheses `Reach`, `Quiescent` and the clauses `nodup`,
  `alive` of `Agree` in Props/C04Table hold in sequential use (`Agree.weights`, that a node carries its entry's weight, is
  outside the joint model).
-/
import OtterVerif.Proofs.CacheJoint
import OtterVerif.Proofs.PolicyEvicted

namespace OtterVerif.Props.C04Joint
open OtterVerif OtterVerif.Impl.Policy OtterVerif.Proofs.CacheAgree OtterVerif.Proofs.CacheJoint

/-- C05: **mapped ⇔ introduced ∧ alive, after every sequential history** (and the policy state is reachable and quiescent) -/
theorem c05_agreement_is_invariant (p0 : Policy)
    (h0 : p0.window = [] ∧ p0.probation = [] ∧ p0.prot = [] ∧ p0.weightedSize = 0) (ops : List JOp) :
    let s := ops.foldl jstep { S := [], p := p0, live := [] }; JInv s.S s.p s.live :=
  jrun_inv p0 h0 ops

/-- C05: the policy tracks exactly the mapped entries (each once) after every sequential history -/
theorem c05_tracked_eq_mapped (p0 : Policy)
    (h0 : p0.window = [] ∧ p0.probation = [] ∧ p0.prot = [] ∧ p0.weightedSize = 0) (ops : List JOp) (id : Nat) :
    let s := ops.foldl jstep { S := [], p := p0, live := [] }; Linked s.p id ↔ id ∈ s.live :=
  (linked_iff_all _ id).trans (jrun_inv p0 h0 ops).perm.mem_iff

/-- C04 / C05: WeightedSize = Σ weights of exactly the mapped nodes (uint64) after every sequential history -/
theorem c04_weightedSize_is_mapped_weight (p0 : Policy)
    (h0 : p0.window = [] ∧ p0.probation = [] ∧ p0.prot = [] ∧ p0.weightedSize = 0) (ops : List JOp) :
    let s := ops.foldl jstep { S := [], p := p0, live := [] }; s.p.weightedSize = wsum s.p s.live :=
  jrun_weight p0 h0 ops

/-- C04: **the bound after every operation** (every operation that ends with an eviction pass; the removal of an expired node by
    the timer wheel, `.expire`, runs none of its own — it only shrinks the mapped set and is followed by the pass of the same
    maintenance run): one joint step from a state satisfying the invariant either is not a step of the cache (precondition
    failed: state unchanged) or ends with the mapped weight within the maximum, or with only weightless entries mapped -/
theorem c04_bound_after_every_operation (s : JState) (op : JOp) (h : JInv s.S s.p s.live)
    (hop : ∀ old, op ≠ .expire old) :
    jstep s op = s ∨ (jstep s op).p.weightedSize.toNat ≤ (jstep s op).p.maximum.toNat ∨
      (∀ id ∈ (jstep s op).live, ((jstep s op).p.node id).weight = 0) := by
  have hc := jstep_case s op h
  generalize jstep s op = t at hc ⊢
  cases hc with
  | skip => exact Or.inl rfl
  | expire old => exact absurd rfl (hop old)
  | reply r => exact Or.inr (Or.inl (evictNodes_le_maximum r.reach))

/-- C07 / C04: the policy never changes a node's state except by killing it (add, update, the eviction pass; reads, the hill
    climber and SetMaximum change none) — the fact the joint invariant rests on -/
theorem c05_policy_only_kills {S : List Nat} {p : Policy} (h : Reach S p) (id old : Nat) (hs : id ∉ S) :
    Dn p (add p id) ∧ Dn p (update p id old) ∧ Dn p (evictNodes p) :=
  ⟨dn_add id (reach_inv h), dn_update old (reach_inv h) hs, dn_evictNodes (reach_inv h)⟩

/-- C06 / C07: **what the table unlinks in reaction to the policy was handed to the eviction callback** — in a joint step an
    alive node stops being alive only through `evictNode` (the replaced / removed node was retired by the table before its
    event is replayed): every node `react` drops after an insert, a replacement or a removal is in the policy's callback list -/
theorem c07_reaction_is_callback {S : List Nat} {p : Policy} {live : List Nat} (h : JInv S p live) :
    (∀ id key w, id ∉ S → ∀ x ∈ id :: live,
      x ∉ react (evictNodes (add (mkNode p id key w .alive) id)) (id :: live) →
      x ∈ (evictNodes (add (mkNode p id key w .alive) id)).evicted) ∧
    (∀ id old key w, id ∉ S → old ∈ live → ∀ x ∈ id :: live.filter (· != old),
      x ∉ react (evictNodes (update (mkNode (retire p old) id key w .alive) id old)) (id :: live.filter (· != old)) →
      x ∈ (evictNodes (update (mkNode (retire p old) id key w .alive) id old)).evicted) ∧
    (∀ old, old ∈ live → ∀ x ∈ live.filter (· != old),
      x ∉ react (evictNodes (delete (retire p old) old)) (live.filter (· != old)) →
      x ∈ (evictNodes (delete (retire p old) old)).evicted) :=
  -- the nodes of the list are alive before the policy's reply (`Mid`), and the reply kills no alive node silently
  ⟨fun id key w hs => (reply_insert h id key w hs).pass.drops_evicted,
    fun id old key w hs ho => (reply_replace h id old key w hs ho).pass.drops_evicted,
    fun old _ => (reply_remove h old).pass.drops_evicted⟩

/-- C07: an alive node stops being alive only through the callback — for the add event, the update event of a retired
    predecessor, and the eviction pass -/
theorem c07_alive_dies_only_by_callback {S : List Nat} {p : Policy} (h : Reach S p) (id old : Nat) (hs : id ∉ S)
    (hna : (p.node old).st ≠ .alive) : Ek p (add p id) ∧ Ek p (update p id old) ∧ Ek p (evictNodes p) :=
  ⟨ek_add id (reach_inv h), ek_update old (reach_inv h) hs hna, ek_evictNodes (reach_inv h)⟩

/-- C06 / C07: the converse of `c07_alive_dies_only_by_callback` — whatever the add event, the update event and the eviction
    pass put on the callback list is dead afterwards (and nodes only die), so a node handed to the callback is never mapped
    again -/
theorem c07_callback_nodes_are_dead {S : List Nat} {p : Policy} (h : Reach S p) (id old : Nat) (hs : id ∉ S) :
    DE p (add p id) ∧ DE p (update p id old) ∧ DE p (evictNodes p) :=
  ⟨de_add id (reach_inv h), de_update old (reach_inv h) hs, de_evictNodes (reach_inv h)⟩

/-- C07: **Overflow only if the total weight of the entries mapped AT THAT MOMENT exceeds the maximum** — inside one eviction
    pass, started from a state reached by any sequential history: every node handed to the eviction callback is removed from a
    state in which `maximum < Σ weights of the currently mapped nodes`, the mapped set shrinking in lock-step with the callback
    (`JustT`); and the pass ends with the deques holding exactly the nodes still mapped -/
theorem c07_every_eviction_justified_at_table (p0 : Policy)
    (h0 : p0.window = [] ∧ p0.probation = [] ∧ p0.prot = [] ∧ p0.weightedSize = 0) (ops : List JOp) :
    let s := ops.foldl jstep { S := [], p := p0, live := [] }
    ∃ live', JustT (evictFromWindow s.p).1 s.live (evictNodes s.p) live' ∧ (all (evictNodes s.p)).Perm live' :=
  have h := jrun_inv p0 h0 ops
  evictNodes_justified_at_table (reach_inv h.reach) (reach_winv h.reach) _ h.perm

/-! ### non-vacuity: three inserts into a cache of maximum 2, a replacement, a removal -/
def q0 : Policy := { maximum := 2, windowMaximum := 1, mainProtectedMaximum := 1 }
def exOps : List JOp := [.insert 1 1 1, .insert 2 2 1, .insert 3 3 1, .replace 4 3 3 1, .remove 4]
example : q0.window = [] ∧ q0.probation = [] ∧ q0.prot = [] ∧ q0.weightedSize = 0 := ⟨rfl, rfl, rfl, rfl⟩

/-- the third insert pushes the cache over its maximum of 2: one node is evicted and unlinked by the reaction; the replacement
    and the removal keep the agreement -/
example : ((exOps.take 3).foldl jstep { S := [], p := q0, live := [] }).live = [3, 1] := by decide
example : ((exOps.take 4).foldl jstep { S := [], p := q0, live := [] }).live = [4, 1] := by decide
set_option maxRecDepth 16000 in
example : (exOps.foldl jstep { S := [], p := q0, live := [] }).live = [1] := by decide
set_option maxRecDepth 16000 in
example : (exOps.foldl jstep { S := [], p := q0, live := [] }).p.weightedSize = 1 := by decide

end OtterVerif.Props.C04Joint
