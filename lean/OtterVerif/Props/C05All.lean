/-
  C05 / C04 / C13 — size policy, timer wheel and table in one joint state (Proofs.CacheAll): after every history of combined
  steps from the empty cache (a write event or drained read handed to both policies, then the eviction pass, its callback
  unlinking every victim from the table and from the wheel; single expirations; maintenance sweeps) a node is mapped exactly
  while it is alive and introduced, the size policy is reachable and quiescent, and every mapped node is scheduled in the timer
  wheel with its deadline.
-/
import OtterVerif.Proofs.CacheAll

namespace OtterVerif.Props.C05All
open OtterVerif OtterVerif.Impl.Policy OtterVerif.Proofs.CacheJoint OtterVerif.Proofs.CacheAll

/-- C05: both agreements hold together after an insertion with eviction (policy ↔ table and wheel ↔ table) -/
theorem c05_both_policies_agree_after_insert (s : CState) (h : CInv s) (id key wt d : Nat) (hs : id ∉ s.S)
    (hd : d < Impl.Wheel.two64) : CInv (cinsert s id key wt d) :=
  cinsert_inv s h id key wt d hs hd

/-- C13 / C05: the victims of a size eviction are unscheduled from the timer wheel, every surviving mapped node stays scheduled -/
theorem c13_survivors_stay_scheduled {w : Impl.Wheel.Wheel} {live : List (Nat × Nat)} (h : Impl.Wheel.WJ w live) (E : List Nat) :
    Impl.Wheel.WJ (E.foldl Impl.Wheel.delete w) (live.filter (fun q => !E.contains q.1)) :=
  wj_remove_many h E

/-- C05 / C13: **after every history from the empty cache** of the six kinds of step of `CStep` (insertions, replacements and
    removals, each with the eviction pass; single expirations; drained reads that move a deadline; maintenance sweeps): a node
    is mapped exactly while it is introduced and alive, the size policy is reachable and quiescent, and every mapped node is
    scheduled in the timer wheel with its deadline -/
theorem c05_both_agreements_every_history (p0 : Policy)
    (h0 : p0.window = [] ∧ p0.probation = [] ∧ p0.prot = [] ∧ p0.weightedSize = 0) (s : CState)
    (r : CRun { S := [], p := p0, w := {}, live := [] } s) : CInv s :=
  crun_inv r ⟨JInv.init p0 h0, Impl.Wheel.wj_init⟩

/-- C13 on the combined state: after a maintenance sweep at T that follows any history, every node still mapped (in the table AND
    tracked by the size policy) is scheduled with its deadline in a bucket correct for T: neither its deadline nor its scheduling
    lies a full tick behind T -/
theorem c13_combined_after_sweep (s : CState) (h : CInv s) (T : Nat) (hle : s.w.time ≤ T) (hT : T < Impl.Wheel.two64)
    (q : Nat × Nat)
    (hq : q ∈ (csweepWith s (Impl.Wheel.deleteExpired s.w T).2 (Impl.Wheel.deleteExpired s.w T).1).live) :
    ∃ x : Impl.Wheel.Ent, x.id = q.1 ∧ x.d = q.2 ∧ x.d ≤ x.e ∧ T >>> Impl.Wheel.shift 0 ≤ x.e >>> Impl.Wheel.shift 0 :=
  Impl.Wheel.c13_mapped_not_overdue h.whl T hle hT q hq

/-- C04 on the combined state: whenever the policy component is the result of an eviction pass over a reachable state (every
    insert / replace / remove / read step ends with one), the mapped weight is within the maximum or only weightless entries
    are mapped -/
theorem c04_combined_bound (s' : CState) (h : CInv s') (S : List Nat) (q : Policy) (hr : Reach S q) (he : s'.p = evictNodes q)
    (hS : s'.S = S) :
    s'.p.weightedSize.toNat ≤ s'.p.maximum.toNat ∨ (∀ x ∈ s'.live, (s'.p.node x.1).weight = 0) := by
  rw [he]
  exact Or.inl (evictNodes_le_maximum hr)

/-- the bound after an insertion (with eviction) and after a removal, on the combined state -/
theorem c04_bound_after_insert_and_remove (s : CState) (h : CInv s) :
    (∀ id key wt d, id ∉ s.S → d < Impl.Wheel.two64 →
      (cinsert s id key wt d).p.weightedSize.toNat ≤ (cinsert s id key wt d).p.maximum.toNat ∨
      (∀ x ∈ (cinsert s id key wt d).live, ((cinsert s id key wt d).p.node x.1).weight = 0)) ∧
    (∀ old, old ∈ s.live.map (·.1) →
      (cremove s old).p.weightedSize.toNat ≤ (cremove s old).p.maximum.toNat ∨
      (∀ x ∈ (cremove s old).live, ((cremove s old).p.node x.1).weight = 0)) := by
  -- the policy component is read off through `settle`, never by unfolding the step
  constructor
  · intro id key wt d hs _
    rw [cinsert_eq, settle_p]
    exact Or.inl (evictNodes_le_maximum (reply_insert h.pol id key wt hs).reach)
  · intro old _
    rw [cremove_eq, settle_p]
    exact Or.inl (evictNodes_le_maximum (reply_remove h.pol old).reach)

end OtterVerif.Props.C05All
