/-
  C08 — Loads are single-flight and every waiter terminates.

  Spec level (every state; proved in `Props.C10`): a second registration for a key with a load in flight is refused — the
  second caller joins; completion of a call (value, error, not-found, panic) always unregisters it; so does a write, an
  invalidation or an automatic removal (the only way two loader executions for one key may overlap).
  All interleavings: `Conc.Flight` stands for singleflight.go (startCall / deleteCall / delete, call.wait / cancel) and
  cache.afterDeleteCall: one key, unboundedly many callers, writers and call objects.
  Tie: the skeleton equalities below (get-or-create under the call table's bucket lock; the deferred recover + afterFinish;
  deleteCall inside the cache bucket's critical section; Get / BulkGet / refreshKey / bulkRefreshKeys: no return between
  startCall and doCall / doBulkCall, every path reaches wait); the SEQ load profile (a watchdog reports an operation that
  never returns — F12); CONC-flight on the real cache.
  PARTIAL: the model's atomic steps are tied to the code by the skeletons and by CONC-flight, not by a step-by-step
  refinement proof; bulk calls are modelled per key.
-/
import OtterVerif.Props.C10
import OtterVerif.Gen.Skeleton
import OtterVerif.Conc.FlightSkeleton
import OtterVerif.Conc.Flight

namespace OtterVerif.Props.C08
open OtterVerif OtterVerif.Spec

/-- single flight: while a load is registered for k, no second one is registered -/
theorem c08_single_flight (s : State) (k cid cid' : Nat) : (startCall (startCall s k cid).1 k cid').2 = false :=
  C10.c08_single_flight s k cid cid'

/-- the registered call is unregistered by its own completion, whatever the outcome -/
theorem c08_completion_unregisters (c : Cfg) (s : State) (k cid : Nat) (r f : Bool) (o : LoadOutcome)
    (h : s.inflightOf k = some cid) : (finishCall c s k cid r f o).1.inflightOf k = none := by
  rw [finishCall_frame]
  simp only [h, beq_self_eq_true, ↓reduceIte]
  exact inflightOf_clear_self s k

/-- after completion a later Get registers (and loads) afresh -/
theorem c08_later_get_loads_afresh (c : Cfg) (s : State) (k cid cid' : Nat) (r f : Bool) (o : LoadOutcome)
    (h : s.inflightOf k = some cid) : (startCall (finishCall c s k cid r f o).1 k cid').2 = true := by
  have := c08_completion_unregisters c s k cid r f o h
  unfold startCall
  rw [this]

theorem skeleton_group_startCall : Gen.Skeleton.group_startCall = Conc.FlightSkeleton.group_startCall := rfl
theorem skeleton_group_deleteCall : Gen.Skeleton.group_deleteCall = Conc.FlightSkeleton.group_deleteCall := rfl
theorem skeleton_group_delete : Gen.Skeleton.group_delete = Conc.FlightSkeleton.group_delete := rfl
theorem skeleton_group_doCall : Gen.Skeleton.group_doCall = Conc.FlightSkeleton.group_doCall := rfl
theorem skeleton_group_doBulkCall : Gen.Skeleton.group_doBulkCall = Conc.FlightSkeleton.group_doBulkCall := rfl
theorem skeleton_cache_afterDeleteCall : Gen.Skeleton.cache_afterDeleteCall = Conc.FlightSkeleton.cache_afterDeleteCall := rfl

theorem skeleton_cache_Get : Gen.Skeleton.cache_Get = Conc.FlightSkeleton.cache_Get := rfl
theorem skeleton_cache_BulkGet : Gen.Skeleton.cache_BulkGet = Conc.FlightSkeleton.cache_BulkGet := rfl
theorem skeleton_cache_refreshKey : Gen.Skeleton.cache_refreshKey = Conc.FlightSkeleton.cache_refreshKey := rfl
theorem skeleton_cache_bulkRefreshKeys : Gen.Skeleton.cache_bulkRefreshKeys = Conc.FlightSkeleton.cache_bulkRefreshKeys := rfl
theorem skeleton_cache_wrapLoad : Gen.Skeleton.cache_wrapLoad = Conc.FlightSkeleton.cache_wrapLoad := rfl
theorem skeleton_call_cancel : Gen.Skeleton.call_cancel = Conc.FlightSkeleton.call_cancel := rfl
theorem skeleton_call_wait : Gen.Skeleton.call_wait = Conc.FlightSkeleton.call_wait := rfl

/-! ### All interleavings (Conc.Flight) -/

open OtterVerif.Conc.Flight in
/-- loader invocations for one key never overlap in time unless the key was written, invalidated or evicted in between:
    two call objects that are both being loaded and were both not removed by a writer are the same object -/
theorem c08_no_overlap {s : St} (h : Reach s) (i j : Nat) (hi : s.phase i = .loading) (hj : s.phase j = .loading)
    (oi : s.orphaned i = false) (oj : s.orphaned j = false) : i = j :=
  -- both are the registered object
  Option.some.inj (((reach_inv h).own i hi oi).symm.trans ((reach_inv h).own j hj oj))

open OtterVerif.Conc.Flight in
/-- … so two distinct loads in progress imply that a writer removed one of them from the table -/
theorem c08_overlap_needs_write {s : St} (h : Reach s) (i j : Nat) (hne : i ≠ j) (hi : s.phase i = .loading)
    (hj : s.phase j = .loading) : s.orphaned i = true ∨ s.orphaned j = true :=
  (Bool.eq_false_or_eq_true _).imp_right fun oi =>
    (Bool.eq_false_or_eq_true _).resolve_right fun oj => hne (c08_no_overlap h i j hi hj oi oj)

open OtterVerif.Conc.Flight in
/-- a loader that fails, reports not-found or panics leaves no in-flight record behind: once no load is running the table
    holds no call (the record is removed by the leader before it releases the waiters) -/
theorem c08_no_record_left {s : St} (h : Reach s) (hq : ∀ i, s.phase i ≠ .loading) : s.cur = none :=
  Option.eq_none_iff_forall_ne_some.mpr fun i hc => hq i ((reach_inv h).reg i hc).1

open OtterVerif.Conc.Flight in
/-- every waiter terminates: whenever a caller waits on object i, a step of i's leader or of the waiter is enabled that
    strictly advances i (loading → finishing → done → one waiter fewer) — under the assumption that loaders return -/
theorem c08_waiter_progress {s : St} (h : Reach s) (i : Nat) (hw : 0 < s.waiting i) :
    ∃ s', Step s s' ∧ ((s.phase i = .loading ∧ s'.phase i = .finishing) ∨ (s.phase i = .finishing ∧ s'.phase i = .done) ∨
      (s.phase i = .done ∧ s'.waiting i + 1 = s.waiting i)) := by
  have hnf := (reach_inv h).wait i hw
  cases hp : s.phase i with
  | fresh => exact absurd hp hnf
  | loading => exact ⟨_, Step.unregister s i hp, .inl ⟨rfl, upd_self ..⟩⟩
  | finishing => exact ⟨_, Step.cancel s i hp, .inr (.inl ⟨rfl, upd_self ..⟩)⟩
  | done =>
    exact ⟨_, Step.resume s i hp hw, .inr (.inr ⟨rfl, (congrArg (· + 1) (upd_self ..)).trans (Nat.sub_add_cancel hw)⟩)⟩

open OtterVerif.Conc.Flight in
/-- a later Get loads afresh: with no load running, the next caller registers a new call and becomes its leader -/
theorem c08_later_get_creates {s : St} (h : Reach s) (hq : ∀ i, s.phase i ≠ .loading) :
    ∃ s', Step s s' ∧ s'.cur = some s.next ∧ s'.phase s.next = .loading :=
  ⟨_, Step.create s (c08_no_record_left h hq), rfl, upd_self ..⟩

open OtterVerif.Conc.Flight in
/-- non-vacuity: two overlapping loads are reachable (create, kill by a writer, create) and the first is orphaned -/
theorem c08_overlap_reachable : ∃ s, Reach s ∧ s.phase 0 = .loading ∧ s.phase 1 = .loading ∧ s.orphaned 0 = true :=
  ⟨_, Reach.step (Reach.step (Reach.step Reach.init (Step.create {} rfl)) (Step.kill _)) (Step.create _ rfl), rfl, rfl, rfl⟩

/-! ### Non-vacuity -/
def s1 : State := { now := 1, inflight := [(3, 7)] }
example : s1.inflightOf 3 = some 7 ∧ (finishCall {} s1 3 7 false false .panic).1.inflightOf 3 = none := by decide

end OtterVerif.Props.C08
