/-
  C06 / C01 — InvalidateAll inside the refinement, and the history theorem over `YOp` (Set / SetIfAbsent / Invalidate /
  GetIfPresent / Compute / clock advances / automatic removals / InvalidateAll; loads and the deadline setters are in the
  histories of Props/C10Refine): same results, same atomic deletion events, same final map as the spec, and written = present +
  reported.
-/
import OtterVerif.Proofs.TableAll
import OtterVerif.Gen.CacheWrite

namespace OtterVerif.Props.C06All
open OtterVerif OtterVerif.Impl.Table OtterVerif.Proofs.TableRefine OtterVerif.Proofs.TableTrace OtterVerif.Proofs.TableEvict
open OtterVerif.Proofs.TableConserve OtterVerif.Proofs.TableAll
open OtterVerif.Spec (Cause Event Out Entry Cfg Kind)

/-- C06: the loop InvalidateAll runs (deleteNode for every collected key) leaves nothing mapped and reports every value once -/
theorem c06_invalidateAll_loop (t : Tbl) (now : Int) (h : NodupKeys t) :
    deleteAll t (t.map (·.1)) now = invalidateAll t now ∧ (invalidateAll t now).1 = [] ∧
    (invalidateAll t now).2.length = t.length := by
  refine ⟨deleteAll_eq t now h, rfl, ?_⟩
  unfold invalidateAll; simp

/-- C06 / C01: InvalidateAll refines the spec's: the same reports (Invalidation, or Expiration for an entry whose deadline has
    passed), the empty map -/
theorem c06_invalidateAll_refines (s : Spec.State) (t : Tbl) (hs : s.m = absT t) (hok : AllOk t) (hnd : NodupKeys t) :
    absT (invalidateAll t s.now).1 = (Spec.invalidateAll s).1.m ∧ (invalidateAll t s.now).2 = (Spec.invalidateAll s).2 :=
  invalidateAll_refines s t hs hok hnd

/-- C06: the loop takes the collected nodes from the end (`nodes[len(nodes)-1]`) while any are left and the write buffer is
    below half of its maximum — over the regenerated conditions; per key there is one node, so the order between keys is free -/
theorem c06_gen_invalidateAll_loop (size len thr : BitVec 64) :
    Gen.CacheWrite.cache_InvalidateAll_c2 size len thr = (BitVec.slt 0#64 len && BitVec.ult size thr) ∧
    Gen.CacheWrite.cache_InvalidateAll_x0 len = len - 1#64 := ⟨rfl, rfl⟩

/-- C01 / C06: **every history over `YOp`, from the empty cache** -/
theorem c01_every_history_all_ops (c : Cfg) (hk1 : KindOk c.expiry) (hk2 : KindOk c.refresh) (hr : ReadOk c) (ops : List YOp)
    (now0 : Int) (hclk : YClockOk now0 ops) (q : Spec.State × List (Out × List Event))
    (hq : ysrun c { now := now0 } ops = some q) :
    (yirun c { now := now0, t := [] } ops).2 = q.2 ∧ q.1.m = absT (yirun c { now := now0, t := [] } ops).1.t ∧
    yTotalInstalls ops (yirun c { now := now0, t := [] } ops).2
      = (yirun c { now := now0, t := [] } ops).1.t.length + totalEvents (yirun c { now := now0, t := [] } ops).2 :=
  have h := yhistory_sim c hk1 hk2 hr ops { now := now0, t := [] } { now := now0 } rfl rfl allOk_nil nodup_nil hclk q hq
  -- nothing is present at the start
  ⟨h.1, h.2.1, (h.2.2.trans (Nat.zero_add _)).symm⟩

/-! ### non-vacuity -/
def exOps : List YOp :=
  [.x (.base (.set 1 7)), .x (.base (.set 2 8)), .x (.base (.advance 11)), .x (.base (.set 3 9)), .invalidateAll, .x (.base (.get 1))]
example : (ysrun { expiry := .writing 10 } { now := 0 } exOps).isSome = true := by decide
example : ((yirun { expiry := .writing 10 } { now := 0, t := [] } exOps).2.map (fun r => r.2.map (·.cause))) =
    [[], [], [], [], [.invalidation, .expiration, .expiration], []] := by decide

end OtterVerif.Props.C06All
