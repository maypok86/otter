/-
  C06 (concurrent part) — every departure is reported exactly once, for every interleaving.

  Conc.Events: writers, invalidations, evictions and task executions in any order.  The model's steps are tied to
  cache_impl.go by skeleton equalities (who calls notifyDeletion / notifyAtomicDeletion / getTask, with which
  arguments, under which branch), regenerated from /repo on every run, and by CONC-events on the real cache.
-/
import OtterVerif.Conc.Events
import OtterVerif.Conc.EventsSkeleton
import OtterVerif.Gen.Skeleton

namespace OtterVerif.Props.C06Conc
open OtterVerif

/-! ### Concurrent departures: every interleaving (Conc.Events) -/

/-- OnDeletion reports a node at most once, whatever the schedule -/
theorem c06_conc_deletion_at_most_once {s : Conc.Events.St} (h : Conc.Events.Reach s) (n : Nat) : s.delLog.count n ≤ 1 := by
  have := (Conc.Events.reach_inv h).sum n
  have := Conc.Events.created_le s.next n
  omega

/-- OnAtomicDeletion reports a node at most once, whatever the schedule -/
theorem c06_conc_atomic_at_most_once {s : Conc.Events.St} (h : Conc.Events.Reach s) (n : Nat) : s.atomicLog.count n ≤ 1 := by
  have := (Conc.Events.reach_inv h).atomic_once n
  have := Conc.Events.created_le s.next n
  omega

/-- nothing invented, nothing present reported -/
theorem c06_conc_reported_is_gone {s : Conc.Events.St} (h : Conc.Events.Reach s) (n : Nat) (hn : n ∈ s.atomicLog) :
    n < s.next ∧ s.cell (s.keyOf n) ≠ some n :=
  (Conc.Events.reach_inv h).mem_atomicLog.mp hn

/-- what OnDeletion reports has left the table and was reported atomically at that moment -/
theorem c06_conc_deletion_after_atomic {s : Conc.Events.St} (h : Conc.Events.Reach s) (n : Nat) (hn : n ∈ s.delLog) :
    n ∈ s.atomicLog ∧ s.cell (s.keyOf n) ≠ some n := by
  have h1 := (Conc.Events.reach_inv h).sum n
  have h2 := (Conc.Events.reach_inv h).atomic_once n
  have h4 : 0 < s.delLog.count n := List.count_pos_iff.mpr hn
  have hm : n ∈ s.atomicLog := List.count_pos_iff.mp (by omega)
  exact ⟨hm, (c06_conc_reported_is_gone h n hm).2⟩

/-- **exactly once at quiescence**: with no task pending every node ever installed is either still installed (and
    unreported) or has been reported exactly once by OnDeletion and exactly once by OnAtomicDeletion -/
theorem c06_conc_exactly_once_at_quiescence {s : Conc.Events.St} (h : Conc.Events.Reach s) (hq : s.queue = []) (n : Nat)
    (hn : n < s.next) :
    (s.cell (s.keyOf n) = some n ∧ s.delLog.count n = 0 ∧ s.atomicLog.count n = 0) ∨
    (s.cell (s.keyOf n) ≠ some n ∧ s.delLog.count n = 1 ∧ s.atomicLog.count n = 1) := by
  have h1 := (Conc.Events.reach_inv h).sum n
  have h2 := (Conc.Events.reach_inv h).atomic_once n
  rw [hq, show Conc.Events.pend n [] = 0 from rfl] at h1
  grind [Conc.Events.inT, Conc.Events.created]

/-- a departure not yet reported by OnDeletion is carried by exactly one pending task -/
theorem c06_conc_unreported_has_one_task {s : Conc.Events.St} (h : Conc.Events.Reach s) (n : Nat) (hn : n < s.next)
    (hc : s.cell (s.keyOf n) ≠ some n) (hd : n ∉ s.delLog) : Conc.Events.pend n s.queue = 1 := by
  have h1 := (Conc.Events.reach_inv h).sum n
  rw [show Conc.Events.created s.next n = 1 from if_pos hn, show Conc.Events.inT s.cell s.keyOf n = 0 from if_neg hc,
    List.count_eq_zero.mpr hd] at h1
  omega

/-- for one key, the atomic handler sees the departures in the order the values were installed (node identities are handed out
    in installation order): among the reports of one key, identities increase -/
theorem c06_conc_atomic_order_per_key {s : Conc.Events.St} (h : Conc.Events.Reach s) :
    s.atomicLog.Pairwise (fun a b => s.keyOf a = s.keyOf b → a < b) :=
  (Conc.Events.reach_inv h).ord

/-- non-vacuity: key 3 is written twice, the replaced node is evicted too late (no step exists for that), the second one is
    invalidated; after both tasks ran: nodes 0 and 1 each reported once -/
theorem c06_conc_example : ∃ s, Conc.Events.Reach s ∧ s.queue = [] ∧ s.delLog = [0, 1] ∧ s.atomicLog = [0, 1] := by
  have r0 := Conc.Events.Reach.init
  have r1 := Conc.Events.Reach.step r0 (Conc.Events.Step.setNew _ 3 rfl)
  have r2 := Conc.Events.Reach.step r1 (Conc.Events.Step.setOld _ 3 0 rfl)
  have r3 := Conc.Events.Reach.step r2 (Conc.Events.Step.invalidate _ 3 1 rfl)
  have r4 := Conc.Events.Reach.step r3 (Conc.Events.Step.run _ [] [.update 1 0, .delete 1] (.add 0) rfl)
  have r5 := Conc.Events.Reach.step r4 (Conc.Events.Step.run _ [] [.delete 1] (.update 1 0) rfl)
  have r6 := Conc.Events.Reach.step r5 (Conc.Events.Step.run _ [] [] (.delete 1) rfl)
  exact ⟨_, r6, rfl, rfl, rfl⟩

/-! ### The model's steps are the code's: skeleton equalities (regenerated from /repo on every run) -/
theorem skeleton_cache_atomicSet : Gen.Skeleton.cache_atomicSet = Conc.EventsSkeleton.cache_atomicSet := rfl
theorem skeleton_cache_atomicDelete : Gen.Skeleton.cache_atomicDelete = Conc.EventsSkeleton.cache_atomicDelete := rfl
theorem skeleton_cache_deleteNodeFromMap : Gen.Skeleton.cache_deleteNodeFromMap = Conc.EventsSkeleton.cache_deleteNodeFromMap := rfl
theorem skeleton_cache_afterWrite : Gen.Skeleton.cache_afterWrite = Conc.EventsSkeleton.cache_afterWrite := rfl
theorem skeleton_cache_afterDelete : Gen.Skeleton.cache_afterDelete = Conc.EventsSkeleton.cache_afterDelete := rfl
theorem skeleton_cache_deleteNode : Gen.Skeleton.cache_deleteNode = Conc.EventsSkeleton.cache_deleteNode := rfl
theorem skeleton_cache_evictNode : Gen.Skeleton.cache_evictNode = Conc.EventsSkeleton.cache_evictNode := rfl
theorem skeleton_cache_runTask : Gen.Skeleton.cache_runTask = Conc.EventsSkeleton.cache_runTask := rfl
theorem skeleton_cache_notifyDeletion : Gen.Skeleton.cache_notifyDeletion = Conc.EventsSkeleton.cache_notifyDeletion := rfl
theorem skeleton_cache_notifyAtomicDeletion : Gen.Skeleton.cache_notifyAtomicDeletion = Conc.EventsSkeleton.cache_notifyAtomicDeletion := rfl
theorem skeleton_cache_makeRetired : Gen.Skeleton.cache_makeRetired = Conc.EventsSkeleton.cache_makeRetired := rfl
theorem skeleton_cache_set : Gen.Skeleton.cache_set = Conc.EventsSkeleton.cache_set := rfl
theorem skeleton_cache_Invalidate : Gen.Skeleton.cache_Invalidate = Conc.EventsSkeleton.cache_Invalidate := rfl
theorem skeleton_cache_doCompute : Gen.Skeleton.cache_doCompute = Conc.EventsSkeleton.cache_doCompute := rfl
theorem skeleton_cache_makeDead : Gen.Skeleton.cache_makeDead = Conc.EventsSkeleton.cache_makeDead := rfl

end OtterVerif.Props.C06Conc
