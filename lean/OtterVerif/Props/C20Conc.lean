/-
  C20 (concurrent part) — the striped counter behind every statistic, for every interleaving (Conc.Adder).

  Adds from any number of goroutines and Value() calls overlapping them: nothing added is lost or counted twice (the stripes
  always sum to the total), and a Value() returns a number between the total when it started and the total when it finished;
  with no Add in progress it is exact.  Tie: skeleton equality of Adder.Add / Adder.Value (regenerated on every run) and
  the statistics tallies of CONC-flight / CONC-lin on the real cache.
-/
import OtterVerif.Conc.Adder
import OtterVerif.Conc.AdderSkeleton
import OtterVerif.Gen.Skeleton
import OtterVerif.Proofs.AdderGen
import OtterVerif.Proofs.BvFacts
import OtterVerif.Pin.AdderSites

namespace OtterVerif.Props.C20Conc
open OtterVerif

/-- nothing lost, nothing twice: the stripes sum to everything that was added -/
theorem c20_conc_stripes_sum_to_total {n : Nat} {s : Conc.Adder.St} (h : Conc.Adder.Reach n s) :
    s.total = Conc.Adder.sumTo s.stripe n := (Conc.Adder.reach_inv h).tot

/-- a Value() overlapping Adds returns a number between the total at its start and the total at its end -/
theorem c20_conc_value_between {n : Nat} {s : Conc.Adder.St} (h : Conc.Adder.Reach n s) {r acc : Nat}
    (hr : s.rd r = some (n, acc)) : s.lo r ≤ acc ∧ acc ≤ s.total := by
  have hi := Conc.Adder.reach_inv h
  have := hi.rd r n acc hr
  rw [hi.tot]
  omega

/-- with no Add between its start and its end, Value() is exact -/
theorem c20_conc_value_exact_when_quiet {n : Nat} {s : Conc.Adder.St} (h : Conc.Adder.Reach n s) {r acc : Nat}
    (hr : s.rd r = some (n, acc)) (hq : s.lo r = s.total) : acc = s.total := by
  have := c20_conc_value_between h hr
  omega

/-- non-vacuity: two stripes, Value() reads stripe 0, an Add lands on stripe 0 behind it and one on stripe 1 ahead of it:
    the result 5 lies strictly between the totals 0 (start) and 12 (end) -/
theorem c20_conc_example : ∃ s, Conc.Adder.Reach 2 s ∧ s.rd 0 = some (2, 5) ∧ s.lo 0 = 0 ∧ s.total = 12 := by
  have r0 := Conc.Adder.Reach.init (n := 2)
  have r1 := Conc.Adder.Reach.step r0 (Conc.Adder.Step.rStart _ 0 rfl)
  have r2 := Conc.Adder.Reach.step r1 (Conc.Adder.Step.rRead _ 0 0 0 rfl (by decide))
  have r3 := Conc.Adder.Reach.step r2 (Conc.Adder.Step.add _ 0 7 (by decide))
  have r4 := Conc.Adder.Reach.step r3 (Conc.Adder.Step.add _ 1 5 (by decide))
  have r5 := Conc.Adder.Reach.step r4 (Conc.Adder.Step.rRead _ 0 1 0 rfl (by decide))
  exact ⟨_, r5, rfl, rfl, rfl⟩

theorem skeleton_Adder_Add : Gen.Skeleton.Adder_Add = Conc.AdderSkeleton.Adder_Add := rfl
theorem skeleton_Adder_Value : Gen.Skeleton.Adder_Value = Conc.AdderSkeleton.Adder_Value := rfl

/-! ### the striped counter's arithmetic, regenerated from internal/xsync/adder.go -/

/-- an Add always lands on one of the stripes Value() sums: the index `idx & (nstripes - 1)` is below nstripes (a power of two) -/
theorem c20_gen_stripe_in_range (n idx : BitVec 32) (k : Nat) (hk : k ≤ 31) (hn : n.toNat = 2 ^ k) :
    (Gen.AdderSites.Adder_Add_x0 (Gen.AdderSites.NewAdder_x0 n) idx).toNat < n.toNat :=
  Bv.toNat_and_pred_lt idx n (hn ▸ Nat.two_pow_pos k)

/-- an Add installs `cnt + delta`; Value starts from 0, visits every stripe below len(stripes) once and adds its load -/
theorem c20_gen_add_and_value (cnt delta i len v x : BitVec 64) (hi : i.toNat < 2 ^ 62) (hl : len.toNat < 2 ^ 62) :
    Gen.AdderSites.Adder_Add_x1 cnt delta = cnt + delta ∧
    Gen.AdderSites.Adder_Value_a0 = 0#64 ∧ Gen.AdderSites.Adder_Value_a1 = 0#64 ∧
    Gen.AdderSites.Adder_Value_c0 i len = decide (i.toNat < len.toNat) ∧
    Gen.AdderSites.Adder_Value_u0 i = i + 1#64 ∧ Gen.AdderSites.Adder_Value_u1 x v = v + x :=
  ⟨Proofs.AdderGen.add_installs cnt delta, rfl, rfl, Bv.slt_eq_decide_toNat i len (by omega) (by omega), rfl, rfl⟩

end OtterVerif.Props.C20Conc
