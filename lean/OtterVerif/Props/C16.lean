/-
  C16 — Write buffer: each event delivered exactly once, in producer order, bounded.

  internal/deque/queue/mpsc.go in two models.  `Impl.Mpsc`: sequential transcription, index arithmetic regenerated from the
  source (Gen.MpscIdx, Gen.MpscSites); tied by UNIT-mpsc (index words and chunk lengths after every call; FIFO /
  refuse-iff-full oracle over all capacity pairs and chunk switches) and by skeleton equality of the queue functions.
  `Conc.MpscConc`: all interleavings of unboundedly many producers, the single consumer and any number of growth steps, at
  the level of positions (pIndex / 2); tied by the same skeletons, by the index lemmas below (an element offset is the
  position modulo the chunk size and never the link slot) and by CONC-mpsc (real producers + consumer; the delivery log is
  judged for exactly-once, per-producer order, no invention, no refusal below capacity).
  PARTIAL: the position-level model is tied to mpsc.go by the skeletons, the index lemmas and CONC-mpsc, not by a refinement
  proof; index wrap-around at 2^64 is not modelled (positions are naturals); the sequential refinement of Impl.Mpsc is
  checked by the UNIT-mpsc oracle on every run.
-/
import OtterVerif.Impl.Mpsc
import OtterVerif.Conc.MpscSkeleton
import OtterVerif.Conc.DrainSkeleton
import OtterVerif.Gen.Skeleton
import OtterVerif.Conc.MpscConc
import OtterVerif.Proofs.MpscGen
import OtterVerif.Proofs.BvFacts
import OtterVerif.Pin.MpscSites

namespace OtterVerif.Props.C16
open OtterVerif

/-- an element offset is at most half the mask: inside a chunk of length mask/2 + 2 and below its last (link) slot -/
theorem c16_offset_bound (index mask : BitVec 64) :
    (Gen.MpscIdx.modifiedCalcElementOffset index mask).toNat ≤ mask.toNat / 2 := by
  unfold Gen.MpscIdx.modifiedCalcElementOffset
  rw [BitVec.toNat_ushiftRight, Nat.shiftRight_eq_div_pow]
  exact Nat.div_le_div_right (Bv.toNat_and_le index mask)

/-- the link to the next chunk lives in the last slot: index mask/2 + 1 -/
theorem c16_link_slot (mask : BitVec 64) (h : mask.toNat + 2 < 2 ^ 64) :
    (Gen.MpscIdx.nextArrayOffset mask).toNat = mask.toNat / 2 + 1 := by
  unfold Gen.MpscIdx.nextArrayOffset Gen.MpscIdx.modifiedCalcElementOffset
  rw [BitVec.toNat_ushiftRight, Bv.toNat_and_mask _ _ 64 (by decide), BitVec.toNat_add_of_lt h, Nat.shiftRight_eq_div_pow]
  change (mask.toNat + 2) % 2 ^ 64 / 2 = _
  rw [Nat.mod_eq_of_lt h, Nat.add_div_right _ (by decide)]

/-- hence an element is never stored over the link -/
theorem c16_element_never_in_link_slot (index mask : BitVec 64) (h : mask.toNat + 2 < 2 ^ 64) :
    (Gen.MpscIdx.modifiedCalcElementOffset index mask).toNat < (Gen.MpscIdx.nextArrayOffset mask).toNat := by
  have := c16_offset_bound index mask
  rw [c16_link_slot mask h]; omega

/-- free space is exact while the producer is at most one capacity ahead of the consumer -/
theorem c16_available_exact (maxCap pIndex cIndex : BitVec 64) (h1 : cIndex.toNat ≤ pIndex.toNat)
    (h2 : pIndex.toNat - cIndex.toNat ≤ maxCap.toNat) :
    (Gen.MpscIdx.availableInQueue maxCap pIndex cIndex).toNat = maxCap.toNat - (pIndex.toNat - cIndex.toNat) := by
  unfold Gen.MpscIdx.availableInQueue
  have hpc : (pIndex - cIndex).toNat = pIndex.toNat - cIndex.toNat := BitVec.toNat_sub_of_le (BitVec.le_def.2 h1)
  rw [BitVec.toNat_sub_of_le (BitVec.le_def.2 (by rw [hpc]; exact h2)), hpc]

/-- refusal test: no free space iff the producer is exactly one capacity ahead -/
theorem c16_full_iff (maxCap pIndex cIndex : BitVec 64) (h1 : cIndex.toNat ≤ pIndex.toNat)
    (h2 : pIndex.toNat - cIndex.toNat ≤ maxCap.toNat) :
    Gen.MpscIdx.availableInQueue maxCap pIndex cIndex = 0 ↔ pIndex.toNat - cIndex.toNat = maxCap.toNat := by
  rw [← BitVec.toNat_inj, c16_available_exact maxCap pIndex cIndex h1 h2]
  change maxCap.toNat - (pIndex.toNat - cIndex.toNat) = 0 ↔ _
  omega

/-- an element offset is the position (index / 2) modulo the chunk size, for every chunk size 2^k -/
theorem c16_offset_is_position_mod (index : BitVec 64) (k : Nat) (hk : k < 62) :
    (Gen.MpscIdx.modifiedCalcElementOffset index (BitVec.ofNat 64 (2 * (2 ^ k - 1)))).toNat = (index.toNat / 2) % 2 ^ k := by
  have hlt : 2 * (2 ^ k - 1) < 2 ^ 64 := by
    have : 2 ^ k ≤ 2 ^ 61 := Nat.pow_le_pow_right (by omega) (by omega)
    omega
  have h1 : (2 * (2 ^ k - 1)) >>> 1 = 2 ^ k - 1 := by
    rw [Nat.shiftRight_eq_div_pow]; omega
  unfold Gen.MpscIdx.modifiedCalcElementOffset
  rw [BitVec.toNat_ushiftRight, BitVec.toNat_and, Bv.toNat_ofNat_lt _ hlt, Nat.shiftRight_and_distrib, h1,
    Nat.and_two_pow_sub_one_eq_mod, Nat.shiftRight_eq_div_pow]

/-! ### All interleavings (Conc.MpscConc) -/

/-- every accepted event is handed to the consumer exactly once, in the order of the positions (and therefore in the order
    in which each producer submitted its own events): the consumed sequence is the elements of positions 0 .. C-1 -/
theorem c16_conc_exactly_once_in_order (g : Conc.MpscConc.Geo) {s : Conc.MpscConc.St} (h : Conc.MpscConc.Reach g s) :
    s.delivered = (List.range s.C).map s.val ∧ s.C ≤ s.P :=
  ⟨(Conc.MpscConc.reach_inv g h).dlv, (Conc.MpscConc.reach_inv g h).c_le_p⟩

/-- the buffer never holds more than its maximum number of events -/
theorem c16_conc_bounded (g : Conc.MpscConc.Geo) {s : Conc.MpscConc.St} (h : Conc.MpscConc.Reach g s) : s.P - s.C ≤ g.M := by
  have hi := Conc.MpscConc.reach_inv g h
  have := hi.p_le_l
  have := hi.l_bound
  omega

theorem mod_ne_of_lt (p q n : Nat) (h1 : p < q) (h2 : q - p < n) : p % n ≠ q % n := fun e => by
  have := Nat.sub_mod_eq_zero_of_mod_eq e.symm
  rw [Nat.mod_eq_of_lt h2] at this
  omega

/-- nothing is overwritten: two reserved, unconsumed positions of the same chunk use different cells … -/
theorem c16_conc_cells_distinct (g : Conc.MpscConc.Geo) {s : Conc.MpscConc.St} (h : Conc.MpscConc.Reach g s) (p q : Nat)
    (hp : s.C ≤ p) (hpq : p < q) (hq : q < s.P) (hb : s.bufOf p = s.bufOf q) :
    p % g.size (s.bufOf p) ≠ q % g.size (s.bufOf p) := by
  have hi := Conc.MpscConc.reach_inv g h
  have homep := hi.home p hp (by omega)
  have homeq := hi.home q (by omega) hq
  rw [← hb] at homeq
  apply mod_ne_of_lt p q _ hpq
  -- both lie in the range of their buffer, which is shorter than the buffer
  by_cases hlast : s.bufOf p + 1 < s.nb
  · have := hi.room _ hlast
    have := homeq.2.2 hlast
    have := g.pos (s.bufOf p)
    omega
  · have e : s.bufOf p = s.nb - 1 := by omega
    rw [e] at homep ⊢
    have := g.cap_le (s.nb - 1)
    have := hi.l_le
    have := hi.p_le_l
    omega

/-- … and none of them uses the cell of the JUMP marker that links the chunk to the next, larger one -/
theorem c16_conc_jump_cell_free (g : Conc.MpscConc.Geo) {s : Conc.MpscConc.St} (h : Conc.MpscConc.Reach g s) (p : Nat)
    (hp : s.C ≤ p) (hpP : p < s.P) (hlast : s.bufOf p + 1 < s.nb) :
    p % g.size (s.bufOf p) ≠ s.first (s.bufOf p + 1) % g.size (s.bufOf p) := by
  have hi := Conc.MpscConc.reach_inv g h
  have hm := hi.home p hp hpP
  have := hi.room _ hlast
  have := g.pos (s.bufOf p)
  exact mod_ne_of_lt p _ _ (hm.2.2 hlast) (by omega)

/-- an offer is refused only when the buffer holds its maximum: the refusal test `M ≤ pIndex - cIndex` can be true only when
    exactly M events are in the buffer (a stale, i.e. smaller, cIndex makes the producer refuse only if the buffer was full
    when it was read: the same statement for the state at that moment) -/
theorem c16_conc_refusal_means_full (g : Conc.MpscConc.Geo) {s : Conc.MpscConc.St} (h : Conc.MpscConc.Reach g s)
    (hfull : g.M ≤ s.P - s.C) : s.P - s.C = g.M := by
  have := c16_conc_bounded g h
  omega

theorem skeleton_MPSC_TryPush : Gen.Skeleton.MPSC_TryPush = Conc.MpscSkeleton.MPSC_TryPush := rfl

theorem skeleton_MPSC_pushSlowPath : Gen.Skeleton.MPSC_pushSlowPath = Conc.MpscSkeleton.MPSC_pushSlowPath := rfl

theorem skeleton_MPSC_resize : Gen.Skeleton.MPSC_resize = Conc.MpscSkeleton.MPSC_resize := rfl

theorem skeleton_MPSC_TryPop : Gen.Skeleton.MPSC_TryPop = Conc.MpscSkeleton.MPSC_TryPop := rfl

theorem skeleton_MPSC_getNextBuffer : Gen.Skeleton.MPSC_getNextBuffer = Conc.MpscSkeleton.MPSC_getNextBuffer := rfl

theorem skeleton_MPSC_newBufferTryPush : Gen.Skeleton.MPSC_newBufferTryPush = Conc.MpscSkeleton.MPSC_newBufferTryPush := rfl

theorem skeleton_MPSC_newBufferAndOffset : Gen.Skeleton.MPSC_newBufferAndOffset = Conc.MpscSkeleton.MPSC_newBufferAndOffset := rfl

/-- the consumer side at the cache level: buffered events are replayed before the event handed over by a writer whose
    offers were refused (otherwise that event would overtake the same producer's earlier ones) -/
theorem skeleton_cache_maintenance : Gen.Skeleton.cache_maintenance = Conc.DrainSkeleton.cache_maintenance := rfl

theorem skeleton_cache_drainWriteBuffer : Gen.Skeleton.cache_drainWriteBuffer = Conc.DrainSkeleton.cache_drainWriteBuffer := rfl

theorem skeleton_cache_afterWriteTask : Gen.Skeleton.cache_afterWriteTask = Conc.DrainSkeleton.cache_afterWriteTask := rfl

theorem maintenance_drains_before_handed_over_task :
    Conc.DrainSkeleton.cache_maintenance.take 3 =
      [(0, "Store drainStatus processingToIdle"), (0, "call drainReadBuffer"), (0, "call drainWriteBuffer")] ∧
    (Conc.DrainSkeleton.cache_maintenance.drop 3).head? = some (0, "call runTask") := ⟨rfl, rfl⟩

/-! ### Non-vacuity -/
example : (Gen.MpscIdx.modifiedCalcElementOffset 10 6).toNat = 1 ∧ (Gen.MpscIdx.nextArrayOffset 6).toNat = 4 := by decide

/-! ### The slow path of TryPush, over the regenerated computations of internal/deque/queue/mpsc.go -/

/-- an offer is refused only when the buffer holds its maximum: for ALL index values, also for a producer whose
    producerIndex is stale (consumerIndex ahead of it, so that `pIndex - cIndex` wraps) -/
theorem c16_gen_refused_only_when_full (maxCap mask pIndex cIndex : BitVec 64) (limitCAS indexCAS : Bool)
    (h : Proofs.MpscGen.slowPathG maxCap mask pIndex cIndex limitCAS indexCAS = 2#8) : pIndex - cIndex = maxCap := by
  revert h
  -- of pushSlowPath's five results only the third, the refusal, is 2
  fun_cases Proofs.MpscGen.slowPathG maxCap mask pIndex cIndex limitCAS indexCAS with
  | case3 _ _ hfull =>
    intro _
    unfold Gen.MpscSites.MPSC_pushSlowPath_c1 Gen.MpscSites.MPSC_availableInQueue_r0 at hfull
    rw [Bv.ule_zero, beq_iff_eq] at hfull
    have h := BitVec.sub_add_cancel maxCap (pIndex - cIndex)
    rwa [hfull, BitVec.zero_add] at h
  | case1 | case2 | case4 | case5 => exact fun h => absurd h (by decide)

/-- with room in the current chunk the limit is extended: no refusal, no resize -/
theorem c16_gen_room_extends_limit (maxCap mask pIndex cIndex : BitVec 64) (l i : Bool)
    (h : BitVec.ult pIndex (cIndex + Proofs.MpscGen.capG maxCap mask) = true) :
    Proofs.MpscGen.slowPathG maxCap mask pIndex cIndex l i = (if l then 0#8 else 1#8) := by
  unfold Proofs.MpscGen.slowPathG
  simp only [Gen.MpscSites.MPSC_pushSlowPath_c0, h, ↓reduceIte]
  cases l <;> rfl

/-- the conditions of the sequential model (Impl.Mpsc.tryPush) are the code's -/
theorem c16_gen_model_conditions (maxCap mask pIndex cIndex limit : BitVec 64) :
    Gen.MpscSites.MPSC_TryPush_c1 pIndex limit = BitVec.ule limit pIndex ∧
    Gen.MpscSites.MPSC_pushSlowPath_c0 (Proofs.MpscGen.capG maxCap mask) cIndex pIndex
      = BitVec.ult pIndex (cIndex + Gen.MpscIdx.getCurrentBufferCapacity maxCap mask) ∧
    Gen.MpscSites.MPSC_pushSlowPath_c1 (Gen.MpscSites.MPSC_availableInQueue_r0 cIndex maxCap pIndex)
      = (Gen.MpscIdx.availableInQueue maxCap pIndex cIndex == 0) :=
  ⟨rfl, rfl, Bv.ule_zero _⟩

example : Proofs.MpscGen.slowPathG 8#64 6#64 8#64 0#64 true true = 2#8 := by decide

/-- growth is bounded: the chunk a resize links has twice the capacity of the current one and — chunk capacities and the
    maximum being powers of two — never more than the maximum; getNextBufferSize refuses only a chunk already beyond it -/
theorem c16_gen_growth_bounded (len maxCap : BitVec 64) (k m : Nat) (hk : k ≤ 60) (hm : m ≤ 60)
    (hlen : len.toNat = 2 ^ k + 1) (hmax : (Gen.MpscSites.MPSC_getNextBufferSize_a0 maxCap).toNat = 2 ^ m)
    (hok : Gen.MpscSites.MPSC_getNextBufferSize_c0 len (Gen.MpscSites.MPSC_getNextBufferSize_a0 maxCap) = false) :
    (Gen.MpscSites.MPSC_getNextBufferSize_r0 (Gen.MpscSites.MPSC_getNextBufferSize_a2 len)).toNat = 2 * (len.toNat - 1) + 1 ∧
    (Gen.MpscSites.MPSC_getNextBufferSize_r0 (Gen.MpscSites.MPSC_getNextBufferSize_a2 len)).toNat - 1
      ≤ (Gen.MpscSites.MPSC_getNextBufferSize_a0 maxCap).toNat := by
  have hk' : (2 : Nat) ^ k ≤ 2 ^ 60 := Nat.pow_le_pow_right (by decide) hk
  have hle : 2 ^ k < 2 ^ m := by
    unfold Gen.MpscSites.MPSC_getNextBufferSize_c0 at hok
    rw [BitVec.ult_eq_decide, decide_eq_false_iff_not, hmax, hlen] at hok
    omega
  have hsub : (len - 1#64).toNat = 2 ^ k := by rw [Bv.toNat_sub_one len (hlen ▸ Nat.succ_pos _), hlen, Nat.add_sub_cancel]
  have hmul : (2#64 * (len - 1#64)).toNat = 2 * 2 ^ k := by
    rw [BitVec.toNat_mul_of_lt (by rw [hsub]; show 2 * 2 ^ k < 2 ^ 64; omega), hsub]
    rfl
  have hres : (Gen.MpscSites.MPSC_getNextBufferSize_r0 (Gen.MpscSites.MPSC_getNextBufferSize_a2 len)).toNat = 2 * 2 ^ k + 1 := by
    unfold Gen.MpscSites.MPSC_getNextBufferSize_r0 Gen.MpscSites.MPSC_getNextBufferSize_a2
    rw [Bv.toNat_add_one _ (by omega), hmul]
  rw [hres, hmax, hlen, Nat.add_sub_cancel, Nat.add_sub_cancel]
  exact ⟨rfl, Bv.two_mul_two_pow_le hle⟩

end OtterVerif.Props.C16
