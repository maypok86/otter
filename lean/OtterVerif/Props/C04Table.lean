/-
  C04 / C05 / C07 — the size policy and the table, composed at quiescence.

  Proofs.CacheAgree: when every write event has been replayed and a node is `alive` exactly while it is mapped (the local
  agreement `Agree`), the policy's deques hold exactly the mapped entries' nodes and its running total IS the table's total
  weight.  With the policy-side theorems (bound after evictNodes, eviction guards) this gives the statements C04 and C07 make
  about the cache's contents rather than about the policy's counters.
-/
import OtterVerif.Proofs.CacheAgree
import OtterVerif.Proofs.PolicyJust
import OtterVerif.Proofs.TableEvict

namespace OtterVerif.Props.C04Table
open OtterVerif OtterVerif.Impl.Policy OtterVerif.Impl.Table OtterVerif.Proofs.CacheAgree
open OtterVerif.Proofs.TableRefine (absT)
open OtterVerif.Spec (Cfg Entry)

/-- C05: at quiescence the policy tracks exactly the mapped entries, each once -/
theorem c05_tracked_are_the_mapped {S : List Nat} {p : Policy} {t : Tbl} {live : List Nat} (h : Reach S p)
    (hq : Quiescent S p) (ha : Agree S p t live) : (p.window ++ (p.probation ++ p.prot)).Perm live :=
  linked_perm_live h hq ha

/-- C04 / C05: WeightedSize is the total weight of the entries present -/
theorem c04_weightedSize_is_table_weight {S : List Nat} {p : Policy} {t : Tbl} {live : List Nat} (h : Reach S p)
    (hq : Quiescent S p) (ha : Agree S p t live) (s : Spec.State) (hs : s.m = absT t) (hfit : s.totalWeight < 2 ^ 64) :
    p.weightedSize.toNat = s.totalWeight := by
  rw [weightedSize_is_table_weight h hq ha, ← totalWeight_abs s t hs, BitVec.toNat_ofNat]
  exact Nat.mod_eq_of_lt hfit

/-- C04: **the size bound on the table** — in the quiescent state after an eviction pass (its removals applied to the table)
    the entries present weigh at most the maximum, or every entry present weighs nothing -/
theorem c04_table_bound_after_eviction {S : List Nat} {p : Policy} {t : Tbl} {live : List Nat} (h : Reach S p)
    (hq : Quiescent S (evictNodes p)) (ha : Agree S (evictNodes p) t live) (s : Spec.State) (hs : s.m = absT t)
    (hfit : s.totalWeight < 2 ^ 64) :
    s.totalWeight ≤ (evictNodes p).maximum.toNat ∨ (∀ e ∈ t, e.2.weight = 0) :=
  .inl (c04_weightedSize_is_table_weight (Reach.evict h) hq ha s hs hfit ▸ evictNodes_le_maximum h)

/-- C07: **an Overflow removal is justified at the table** — the guard under which Impl.Policy hands a node to the eviction
    callback (`maximum < weightedSize`, Proofs.PolicyJust) is the spec's condition "the total weight of the entries present
    exceeds the maximum": the spec accepts the removal of a live, non-zero-weight entry in that state -/
theorem c07_overflow_justified_at_table {S : List Nat} {p : Policy} {t : Tbl} {live : List Nat} (h : Reach S p)
    (hq : Quiescent S p) (ha : Agree S p t live) (c : Cfg) (s : Spec.State) (hs : s.m = absT t) (hfit : s.totalWeight < 2 ^ 64)
    (mx : Nat) (hmax : s.maximum = some mx) (hpm : p.maximum.toNat = mx) (hb : c.bounded = true)
    (k : Nat) (e : Entry) (hp : s.phys k = some e) (hx : s.now < e.exp) (hw : e.weight ≠ 0)
    (hg : BitVec.ult p.maximum p.weightedSize = true) : (Proofs.TableEvict.specEvict c s k true).isSome :=
  (Proofs.TableEvict.live_evict_accepted_iff_guard c s k e hp hx hmax hpm
    (c04_weightedSize_is_table_weight h hq ha s hs hfit)).mpr ⟨hb, hw, .inl hg⟩

/-- C07: a cache within its maximum loses nothing to size eviction — at the table: when the entries present weigh no more
    than the maximum, the policy's eviction pass removes nothing -/
theorem c07_within_maximum_nothing_evicted {S : List Nat} {p : Policy} {t : Tbl} {live : List Nat} (h : Reach S p)
    (hq : Quiescent S p) (ha : Agree S p t live) (s : Spec.State) (hs : s.m = absT t) (hfit : s.totalWeight < 2 ^ 64)
    (hle : s.totalWeight ≤ p.maximum.toNat) : (evictNodes p).evicted = p.evicted :=
  evictNodes_within_bound p (by simp [BitVec.ult, c04_weightedSize_is_table_weight h hq ha s hs hfit]; exact hle)

/-! ### non-vacuity: the hypotheses are satisfiable by a reachable, quiescent, agreeing state -/
def q0 : Policy := { maximum := 10, windowMaximum := 1 }
def q1 : Policy := add (mkNode q0 1 1 3 .alive) 1
def t1 : Tbl := [(1, { key := 1, val := 7, weight := 3, exp := maxI64, ref := maxI64 })]

example : Reach [1] q1 := Reach.add 1 (Reach.mk 1 1 3 .alive (Reach.init q0 rfl rfl rfl rfl) (by simp)) (by simp)
example : Quiescent [1] q1 := by
  intro id hid hne
  simp only [List.mem_singleton] at hid
  subst hid
  exact absurd (by decide) hne
example : (q1.node 1).st = .alive ∧ (q1.node 1).weight = 3 ∧ q1.weightedSize = 3 := by decide

example : Agree [1] q1 t1 [1] where
  nodup := by simp
  alive := by
    intro id
    simp only [List.mem_singleton]
    constructor
    · intro h; subst h; exact ⟨rfl, by decide⟩
    · intro h; exact h.1
  weights := by decide

end OtterVerif.Props.C04Table
