/-
  C04 / C05 / C07 — the policy model's arithmetic and decisions are the code's.

  Gen.Policy is regenerated from policy.go on every run (every condition, counter update and assignment of its functions
  that lies in the integer/boolean subset).  The theorems below state, for every policy state, that the model functions the
  bound / bookkeeping / justification theorems are about (Impl.Policy.add, update, discount, reorderProbation, the guards of
  the two eviction loops) are exactly the model's control structure with each decision and each counter update replaced by
  the regenerated one.  Pin.Policy additionally records the meaning and the operand names of every generated definition.
-/
import OtterVerif.Proofs.PolicyGen
import OtterVerif.Pin.Policy
import OtterVerif.Gen.NodeSites

namespace OtterVerif.Props.C04Gen
open OtterVerif OtterVerif.Impl.Policy OtterVerif.Proofs.PolicyGen

/-- the one place where `addG` and `add` differ in more than names: the code sizes the sketch of a weighted cache by a sum of
    three uint64 lengths, the model by the uint64 of the sum -/
theorem w64_add3 (a b c : Nat) : w64 a + w64 b + w64 c = w64 (a + b + c) := by
  unfold w64; rw [← BitVec.ofNat_add, ← BitVec.ofNat_add]

/-- add: weight accounted iff alive; sketch initialised from half of the maximum on; an arrival heavier than the maximum is
    evicted on the spot, one heavier than the window goes to the window's front -/
theorem c04_gen_add (p : Policy) (id : Nat) : addG p id = add p id := by
  have hcap : ∀ q : Policy, Gen.Policy.add_a3 (w64 q.probation.length) (w64 q.prot.length) (w64 q.window.length)
      = w64 (q.window.length + q.probation.length + q.prot.length) := fun q => w64_add3 _ _ _
  unfold addG add
  simp only [hcap]
  rfl

/-- update: which queue's counter gets the new weight, when the replacement is evicted because it alone exceeds the maximum -/
theorem c04_gen_update (p : Policy) (id old : Nat) : updateG p id old = update p id old := by
  unfold updateG update  -- a bare `rfl` costs the elaborator six times as much on these two bodies
  rfl

/-- discount: the weight leaves the counter of the queue the node is in, and the total -/
theorem c04_gen_discount (p : Policy) (id : Nat) : discountG p id = discount p id := rfl

theorem c04_gen_reorderProbation (p : Policy) (id : Nat) : reorderProbationG p id = reorderProbation p id := rfl

/-- the eviction loops run while `windowMaximum < windowWeightedSize` resp. `maximum < weightedSize` (strictly), skip entries
    of weight zero, evict a candidate that alone exceeds the maximum without asking the sketch, and walk the victim queues
    probation → protected → window -/
theorem c04_gen_eviction_guards (p : Policy) :
    Gen.Policy.evictFromWindow_c0 p.windowMaximum p.windowWeightedSize = BitVec.ult p.windowMaximum p.windowWeightedSize ∧
    Gen.Policy.evictFromMain_c0 p.maximum p.weightedSize = BitVec.ult p.maximum p.weightedSize ∧
    (∀ w : Nat, w < 2 ^ 64 → Gen.Policy.evictFromWindow_c2 (w64 w) = (w != 0)) ∧
    (∀ w : BitVec 32, Gen.Policy.evictFromMain_c12 w p.maximum = BitVec.ult p.maximum (w64 w.toNat)) ∧
    (Gen.Policy.evictFromMain_a0 = 1#8 ∧ Gen.Policy.evictFromMain_a1 = 1#8) ∧
    (∀ q : BitVec 8, Gen.Policy.evictFromMain_c3 q = (q == 1#8) ∧ Gen.Policy.evictFromMain_c4 q = (q == 2#8)) :=
  ⟨rfl, rfl, evictFromWindow_skip, evictFromMain_oversized p, ⟨rfl, rfl⟩, fun _ => ⟨rfl, rfl⟩⟩

/-- admission (C18): strictly greater estimate; else, from the hash-flooding threshold 6 on, one random draw in 128 -/
theorem c18_gen_admit (p : Policy) (ck vk : Nat) :
    (Impl.Policy.admit p ck vk).2 =
      if Gen.Policy.admit_c0 (p.freq ck) (p.freq vk) then Gen.Policy.admit_r0
      else if Gen.Policy.admit_c1 (p.freq ck) then
        (match p.rands with
         | r :: _ => Gen.Policy.admit_r1 (BitVec.ofNat 32 r)
         | [] => false)
      else Gen.Policy.admit_r2 := admit_gen p ck vk

/-- every generated definition of policy.go still mentions the operands it mentioned, and every function still has the
    number of decisions and updates it had, when the model was written -/
theorem c04_gen_operands :
    Gen.Policy.siteParams.lookup "admit_c0" = some ["candidateFreq", "victimFreq"] ∧
    Gen.Policy.siteParams.lookup "update_c10" = some ["nodeWeight", "p_maximum"] ∧
    (Gen.Policy.shape.lookup "evictFromMain").map (List.take 3) = some [14, 0, 29] :=
  ⟨by decide, by decide, by decide⟩

/-- the ten node layouts that carry a life-cycle state encode it the same way (0 alive, 1 retired, 2 dead) — what Impl.Policy's
    `NState` and the table's makeRetired / makeDead rely on; the two layouts of caches without maintenance (B, BR) are always alive -/
theorem c05_gen_node_states (s : BitVec 32) :
    (Gen.NodeSites.BE_IsAlive_r0 s = (s == 0#32) ∧ Gen.NodeSites.BE_IsRetired_r0 s = (s == 1#32) ∧ Gen.NodeSites.BE_IsDead_r0 s = (s == 2#32)) ∧
    (Gen.NodeSites.BER_IsAlive_r0 s = (s == 0#32) ∧ Gen.NodeSites.BER_IsRetired_r0 s = (s == 1#32) ∧ Gen.NodeSites.BER_IsDead_r0 s = (s == 2#32)) ∧
    (Gen.NodeSites.BERW_IsAlive_r0 s = (s == 0#32) ∧ Gen.NodeSites.BERW_IsRetired_r0 s = (s == 1#32) ∧ Gen.NodeSites.BERW_IsDead_r0 s = (s == 2#32)) ∧
    (Gen.NodeSites.BEW_IsAlive_r0 s = (s == 0#32) ∧ Gen.NodeSites.BEW_IsRetired_r0 s = (s == 1#32) ∧ Gen.NodeSites.BEW_IsDead_r0 s = (s == 2#32)) ∧
    (Gen.NodeSites.BRW_IsAlive_r0 s = (s == 0#32) ∧ Gen.NodeSites.BRW_IsRetired_r0 s = (s == 1#32) ∧ Gen.NodeSites.BRW_IsDead_r0 s = (s == 2#32)) ∧
    (Gen.NodeSites.BS_IsAlive_r0 s = (s == 0#32) ∧ Gen.NodeSites.BS_IsRetired_r0 s = (s == 1#32) ∧ Gen.NodeSites.BS_IsDead_r0 s = (s == 2#32)) ∧
    (Gen.NodeSites.BSE_IsAlive_r0 s = (s == 0#32) ∧ Gen.NodeSites.BSE_IsRetired_r0 s = (s == 1#32) ∧ Gen.NodeSites.BSE_IsDead_r0 s = (s == 2#32)) ∧
    (Gen.NodeSites.BSER_IsAlive_r0 s = (s == 0#32) ∧ Gen.NodeSites.BSER_IsRetired_r0 s = (s == 1#32) ∧ Gen.NodeSites.BSER_IsDead_r0 s = (s == 2#32)) ∧
    (Gen.NodeSites.BSR_IsAlive_r0 s = (s == 0#32) ∧ Gen.NodeSites.BSR_IsRetired_r0 s = (s == 1#32) ∧ Gen.NodeSites.BSR_IsDead_r0 s = (s == 2#32)) ∧
    (Gen.NodeSites.BW_IsAlive_r0 s = (s == 0#32) ∧ Gen.NodeSites.BW_IsRetired_r0 s = (s == 1#32) ∧ Gen.NodeSites.BW_IsDead_r0 s = (s == 2#32)) ∧
    Gen.NodeSites.B_IsAlive_r0 = true ∧ Gen.NodeSites.BR_IsAlive_r0 = true :=
  ⟨⟨rfl, rfl, rfl⟩, ⟨rfl, rfl, rfl⟩, ⟨rfl, rfl, rfl⟩, ⟨rfl, rfl, rfl⟩, ⟨rfl, rfl, rfl⟩, ⟨rfl, rfl, rfl⟩, ⟨rfl, rfl, rfl⟩, ⟨rfl, rfl, rfl⟩, ⟨rfl, rfl, rfl⟩, ⟨rfl, rfl, rfl⟩, rfl, rfl⟩

/-! non-vacuity: a policy at its maximum where the guard is true -/
example : Gen.Policy.evictFromMain_c0 (3#64) (4#64) = true := by decide

end OtterVerif.Props.C04Gen
