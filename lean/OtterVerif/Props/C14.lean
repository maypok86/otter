/-
  C14 — Maintenance is never stranded: no lost wake-up after a write.

  Conc.Drain models the drain-status protocol (idle / required / processing-to-idle / processing-to-required, try-lock and
  token hand-off to the executor, final CAS and reschedule, caller-runs fallback, every other holder of the eviction lock)
  as an interleaving transition system over an UNBOUNDED number of writers, readers, schedulers, drainers and lock holders.
  Tie: the skeleton (ordered shared-word / lock / executor operations with branch structure) of every protocol function is
  regenerated from cache_impl.go on every run and must equal the snapshot the model was written against; CONC-drain checks
  the theorem's conclusion on the real cache with real goroutines and the default executor.
-/
import OtterVerif.Conc.Drain
import OtterVerif.Conc.DrainSkeleton
import OtterVerif.Gen.Skeleton
import OtterVerif.Gen.CacheMaint
import OtterVerif.Pin.CacheMaint

namespace OtterVerif.Props.C14
open OtterVerif.Conc.Drain

/-- maintenance is never stranded (safety form): all threads returned ⇒ idle and nothing buffered -/
theorem c14_no_stranded (init s : St) (h0 : Initial init) (hr : Reach init s) (hq : Quiescent s) :
    s.ds = 0 ∧ s.wb = 0 := no_stranded init s h0 hr hq

/-- the invariant holds in every reachable configuration -/
theorem c14_invariant (init s : St) (h0 : Initial init) (hr : Reach init s) : DInv s := inv_reach init s h0 hr

/-- no deadlock: while a thread is inside the protocol, some thread can step -/
theorem c14_progress (init s : St) (h0 : Initial init) (hr : Reach init s) (hq : ¬ Quiescent s) : ∃ s', Step s s' :=
  progress s (inv_reach init s h0 hr) hq

/-- a write that arrives while a maintenance is past its drain is not forgotten: in that state the event is owned by a
    writer that will still mark the status (or another drain is pending) -/
theorem c14_late_write_covered (init s : St) (h0 : Initial init) (hr : Reach init s) (hd : s.ds = 2) :
    s.wb ≤ s.W1 + s.Wc23 ∨ futureDrain s ≥ 1 :=
  (inv_reach init s h0 hr).late_write_covered hd

/-- a status marked by a late writer is never dropped: a drain is still to come or the running maintenance converts it -/
theorem c14_marked_covered (init s : St) (h0 : Initial init) (hr : Reach init s) (hd : s.ds = 3) :
    futureDrain s + s.M2 + s.M3 + s.M4 ≥ 1 :=
  (inv_reach init s h0 hr).marked_covered hd

theorem skeleton_cache_afterWriteTask : Gen.Skeleton.cache_afterWriteTask = Conc.DrainSkeleton.cache_afterWriteTask := rfl

theorem skeleton_cache_scheduleAfterWrite : Gen.Skeleton.cache_scheduleAfterWrite = Conc.DrainSkeleton.cache_scheduleAfterWrite := rfl

theorem skeleton_cache_scheduleDrainBuffers : Gen.Skeleton.cache_scheduleDrainBuffers = Conc.DrainSkeleton.cache_scheduleDrainBuffers := rfl

theorem skeleton_cache_drainBuffers : Gen.Skeleton.cache_drainBuffers = Conc.DrainSkeleton.cache_drainBuffers := rfl

theorem skeleton_cache_performCleanUp : Gen.Skeleton.cache_performCleanUp = Conc.DrainSkeleton.cache_performCleanUp := rfl

theorem skeleton_cache_rescheduleCleanUpIfIncomplete : Gen.Skeleton.cache_rescheduleCleanUpIfIncomplete = Conc.DrainSkeleton.cache_rescheduleCleanUpIfIncomplete := rfl

theorem skeleton_cache_maintenance : Gen.Skeleton.cache_maintenance = Conc.DrainSkeleton.cache_maintenance := rfl

theorem skeleton_cache_drainWriteBuffer : Gen.Skeleton.cache_drainWriteBuffer = Conc.DrainSkeleton.cache_drainWriteBuffer := rfl

theorem skeleton_cache_shouldDrainBuffers : Gen.Skeleton.cache_shouldDrainBuffers = Conc.DrainSkeleton.cache_shouldDrainBuffers := rfl

theorem skeleton_cache_SetMaximum : Gen.Skeleton.cache_SetMaximum = Conc.DrainSkeleton.cache_SetMaximum := rfl

theorem skeleton_cache_GetMaximum : Gen.Skeleton.cache_GetMaximum = Conc.DrainSkeleton.cache_GetMaximum := rfl

theorem skeleton_cache_WeightedSize : Gen.Skeleton.cache_WeightedSize = Conc.DrainSkeleton.cache_WeightedSize := rfl

theorem skeleton_cache_InvalidateAll : Gen.Skeleton.cache_InvalidateAll = Conc.DrainSkeleton.cache_InvalidateAll := rfl

theorem skeleton_cache_CleanUp : Gen.Skeleton.cache_CleanUp = Conc.DrainSkeleton.cache_CleanUp := rfl

theorem skeleton_cache_afterRead : Gen.Skeleton.cache_afterRead = Conc.DrainSkeleton.cache_afterRead := rfl

theorem skeleton_cache_evictionOrder : Gen.Skeleton.cache_evictionOrder = Conc.DrainSkeleton.cache_evictionOrder := rfl

theorem skeleton_cache_getNode : Gen.Skeleton.cache_getNode = Conc.DrainSkeleton.cache_getNode := rfl

/-! ### Non-vacuity: a reachable non-trivial configuration (one writer has pushed and marked the status) -/
def i0 : St := { W0 := 2, S0 := 1, PC0 := 1, IA0 := 1 }
example : Initial i0 := by unfold Initial i0; decide
example : Reach i0 { i0 with W0 := 1, W1 := 1, wb := 1 } := Reach.step Reach.init (Step.w_push i0 (by decide))

/-! ### The status encoding and the tests on it, regenerated from cache_impl.go

Conc.Drain writes the drain status as 0 idle, 1 required, 2 processingToIdle, 3 processingToRequired and guards its steps by
`ds = i`, `ds ≥ 2`, `ds ≠ 1`.  These are the code's constants and comparisons (which branch does what is the skeleton's part). -/

/-- scheduleAfterWrite and shouldDrainBuffers dispatch on the four values in this order; the writer's only conditional return
    is on the SUCCESS of its processingToIdle → processingToRequired CAS (on failure it re-reads the status) -/
theorem c14_gen_status_dispatch (ds : BitVec 32) (cas delayable : Bool) :
    Gen.CacheMaint.cache_scheduleAfterWrite_s0 ds = (ds == 0#32) ∧ Gen.CacheMaint.cache_scheduleAfterWrite_s1 ds = (ds == 1#32) ∧
    Gen.CacheMaint.cache_scheduleAfterWrite_s2 ds = (ds == 2#32) ∧ Gen.CacheMaint.cache_scheduleAfterWrite_s3 ds = (ds == 3#32) ∧
    Gen.CacheMaint.cache_scheduleAfterWrite_c0 cas = cas ∧
    Gen.CacheMaint.cache_shouldDrainBuffers_s0 ds = (ds == 0#32) ∧ Gen.CacheMaint.cache_shouldDrainBuffers_s1 ds = (ds == 1#32) ∧
    Gen.CacheMaint.cache_shouldDrainBuffers_s2 ds = (ds == 2#32) ∧ Gen.CacheMaint.cache_shouldDrainBuffers_s3 ds = (ds == 3#32) ∧
    Gen.CacheMaint.cache_shouldDrainBuffers_r0 delayable = !delayable ∧ Gen.CacheMaint.cache_shouldDrainBuffers_r1 = true ∧
    Gen.CacheMaint.cache_shouldDrainBuffers_r2 = false :=
  ⟨rfl, rfl, rfl, rfl, rfl, rfl, rfl, rfl, rfl, rfl, rfl, rfl⟩

/-- scheduleDrainBuffers backs off iff a maintenance is in progress (status ≥ 2), at both of its looks; the maintenance asks for
    a successor (stores `required`) iff its status is no longer processingToIdle or its CAS to idle fails; the re-schedule after
    unlocking and GetMaximum's maintenance happen only for status `required`; one run drains at most maxWriteBufferSize + 1 events -/
theorem c14_gen_status_tests (ds : BitVec 32) (cas : Bool) (i mx : BitVec 32) :
    Gen.CacheMaint.cache_scheduleDrainBuffers_c0 ds = decide (2 ≤ ds.toNat) ∧
    Gen.CacheMaint.cache_scheduleDrainBuffers_c2 ds = decide (2 ≤ ds.toNat) ∧
    Gen.CacheMaint.cache_maintenance_c0 cas ds = ((ds != 2#32) || !cas) ∧
    Gen.CacheMaint.cache_rescheduleCleanUpIfIncomplete_c0 ds = (ds != 1#32) ∧
    Gen.CacheMaint.cache_GetMaximum_c1 ds = (ds == 1#32) ∧
    Gen.CacheMaint.cache_drainWriteBuffer_c1 i mx = decide (i.toNat ≤ mx.toNat) := by
  refine ⟨?_, ?_, rfl, rfl, rfl, ?_⟩ <;> simp [Gen.CacheMaint.cache_scheduleDrainBuffers_c0, Gen.CacheMaint.cache_scheduleDrainBuffers_c2,
    Gen.CacheMaint.cache_drainWriteBuffer_c1, BitVec.ule]

end OtterVerif.Props.C14
