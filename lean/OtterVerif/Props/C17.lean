/-
  C17 — The lossy read buffer may drop reads but never corrupts them.

  internal/lossy in three models.  `Impl.Ring`: atomic-step transcription of ring.go, executed sequentially (UNIT-ring: head,
  tail, length and drained elements after every call).  `Conc.Ring`: one ring, unboundedly many producers, the single
  consumer, every schedule.  `Conc.Striped`: the table of rings of striped.go (stripe creation, expansion), every schedule.
  Tie: skeleton equality of ring.add / ring.drainTo / Striped.Add / expandOrRetry / DrainTo; the regenerated arithmetic
  (Gen.LossySites); CONC-ring (1-16 real recorders racing the draining consumer on the striped buffer; the delivery log is
  judged: nothing delivered that was not recorded, nothing twice, at most 16 per stripe, everything recorded is delivered
  once quiescent).
  Results of cache operations do not depend on the buffer: the Spec has no read buffer at all and the SEQ correspondence
  (C01) is exact with saturated buffers.
  PARTIAL: Conc.Ring and Conc.Striped are not composed mechanically.
-/
import OtterVerif.Impl.Ring
import OtterVerif.Conc.RingSkeleton
import OtterVerif.Gen.Skeleton
import OtterVerif.Conc.Ring
import OtterVerif.Conc.Striped
import OtterVerif.Proofs.LossyGen
import OtterVerif.Proofs.BvFacts
import OtterVerif.Pin.LossySites

namespace OtterVerif.Props.C17
open OtterVerif.Impl.Ring

/-- the ring never holds more than its fixed capacity -/
theorem c17_capacity (r : Ring) (x : Nat) (hh : r.head ≤ r.tail) (h : r.tail - r.head ≤ bufferSize) :
    (add r x).1.tail - (add r x).1.head ≤ bufferSize := by
  unfold add bufferSize at *
  split <;> simp <;> omega

/-- an entry is refused as Full exactly when 16 entries are buffered -/
theorem c17_full_iff (r : Ring) (x : Nat) : (add r x).2 = .full ↔ r.tail - r.head ≥ bufferSize := by
  unfold add
  split <;> simp_all

/-- recording never moves the head and moves the tail by at most one -/
theorem c17_add_frame (r : Ring) (x : Nat) :
    (add r x).1.head = r.head ∧ ((add r x).1.tail = r.tail ∨ (add r x).1.tail = r.tail + 1) := by
  unfold add; split <;> simp

/-- the indices a ring can hold at once occupy different slots: a newly reserved slot never still holds an undelivered entry -/
theorem c17_slots_distinct (h i j : Nat) (hi : h ≤ i) (hj : h ≤ j) (hi' : i < h + 16) (hj' : j < h + 16) (hne : i ≠ j) :
    i % 16 ≠ j % 16 := by omega

/-- a refused entry changes nothing -/
theorem c17_refused_unchanged (r : Ring) (x : Nat) (h : (add r x).2 = .full) : (add r x).1 = r := by
  unfold add at *; split <;> simp_all

/-- a fresh ring holds exactly its first element -/
theorem c17_newRing (x : Nat) : (drainTo (newRing x)).2 = [x] := by
  unfold drainTo newRing
  simp [drainTo.go]

/-! ### All interleavings (Conc.Ring) -/

/-- the buffer never holds more than its fixed capacity, under every interleaving of producers and the consumer -/
theorem c17_conc_capacity {s : Conc.Ring.St} (h : Conc.Ring.Reach s) : s.tail - s.head ≤ 16 :=
  (Conc.Ring.reach_inv h).cap

/-- never hands the policy an entry that was not recorded, never hands a recorded entry more than once: the delivered sequence
    is exactly the elements recorded at indices 0 .. hcur-1 (hcur ≤ tail = number of successful recordings), in that order -/
theorem c17_conc_delivered_exact {s : Conc.Ring.St} (h : Conc.Ring.Reach s) :
    s.delivered = (List.range (Conc.Ring.hcur s)).map s.val ∧ Conc.Ring.hcur s ≤ s.tail :=
  ⟨(Conc.Ring.reach_inv h).dlv, (Conc.Ring.reach_inv h).le_tail⟩

/-- … in particular the number of deliveries never exceeds the number of successful recordings -/
theorem c17_conc_no_invention {s : Conc.Ring.St} (h : Conc.Ring.Reach s) : s.delivered.length ≤ s.tail := by
  have := c17_conc_delivered_exact h
  rw [this.1, List.length_map, List.length_range]; exact this.2

/-- a producer never overwrites an entry that was not handed over yet: a freshly reserved index finds its slot empty -/
theorem c17_conc_reserved_slot_empty {s : Conc.Ring.St} (h : Conc.Ring.Reach s) (hg : s.tail - s.head < 16) :
    s.slot (s.tail % 16) = none := by
  have hi := Conc.Ring.reach_inv h
  exact hi.out s.tail (Nat.le_refl _) (by have := hi.head_le; omega)

/-- delivers every successfully recorded entry once the cache is quiescent and maintenance runs: with no publication pending
    and the consumer idle, a run of the consumer ends with head = tail and everything recorded handed over, once, in order -/
theorem c17_conc_quiescent_drain (s : Conc.Ring.St) (hr : Conc.Ring.Reach s) (hq : ∀ i, s.res i = false) (hc : s.cons = none) :
    ∃ s', Conc.Ring.Steps s s' ∧ s'.head = s.tail ∧ s'.cons = none ∧ s'.delivered = (List.range s.tail).map s.val := by
  obtain ⟨s', a, b, _, d, e⟩ := Conc.Ring.quiescent_drain s hr hq hc
  exact ⟨s', a, b, d, e⟩

/-- non-vacuity: two producers interleaved with the consumer -/
theorem c17_conc_example : ∃ s, Conc.Ring.Reach s ∧ s.delivered = [7] ∧ s.tail = 2 ∧ s.res 1 = true :=
  ⟨_, Conc.Ring.Reach.step (Conc.Ring.Reach.step (Conc.Ring.Reach.step (Conc.Ring.Reach.step (Conc.Ring.Reach.step
    Conc.Ring.Reach.init (Conc.Ring.Step.reserve _ 7 (by decide))) (Conc.Ring.Step.reserve _ 9 (by decide)))
    (Conc.Ring.Step.publish _ 0 rfl)) (Conc.Ring.Step.cStart _ rfl (by decide)))
    (Conc.Ring.Step.cTake _ 0 2 7 rfl (by decide) rfl), rfl, rfl, rfl⟩

/-! ### The stripe table above the rings, for every interleaving of stripe creation and table expansion (Conc.Striped) -/

/-- no ring is orphaned by an expansion or a racing creation: every ring created so far is referenced by the current table,
    at exactly one index (the consumer's pass over the table visits every ring, once) -/
theorem c17_conc_ring_in_table_once {s : Conc.Striped.St} (h : Conc.Striped.Reach s) {v : Nat} (hc : s.cur = some v) {r : Nat}
    (hr : r < s.rings) : ∃ j, j < s.len v ∧ s.slot v j = some r ∧ ∀ j', s.slot v j' = some r → j' = j :=
  have hi := Conc.Striped.reach_inv h
  have ⟨j, h1, h2⟩ := hi.cover v hc r hr
  ⟨j, h1, h2, fun j' h' => hi.inj v hc j' j r h' h2⟩

/-- a recorder working with a stale table pointer still records into a ring of the current table -/
theorem c17_conc_stale_table_ring_is_live {s : Conc.Striped.St} (h : Conc.Striped.Reach s) {v : Nat} (hc : s.cur = some v)
    {v' j r : Nat} (hs : s.slot v' j = some r) : ∃ j', j' < s.len v ∧ s.slot v j' = some r :=
  (Conc.Striped.reach_inv h).cover v hc r ((Conc.Striped.reach_inv h).range v' j r hs).1

/-- non-vacuity: first ring, expansion to two stripes, a second ring in the new stripe: both rings in the current table -/
theorem c17_conc_striped_example : ∃ s, Conc.Striped.Reach s ∧ s.cur = some 1 ∧ s.rings = 2 ∧ s.slot 1 0 = some 0 ∧ s.slot 1 1 = some 1 := by
  have r0 := Conc.Striped.Reach.init
  have r1 := Conc.Striped.Reach.step r0 (Conc.Striped.Step.lockInit _ rfl rfl)
  have r2 := Conc.Striped.Reach.step r1 (Conc.Striped.Step.unlock _ rfl)
  have r3 := Conc.Striped.Reach.step r2 (Conc.Striped.Step.lockExpand _ 0 rfl rfl)
  have r4 := Conc.Striped.Reach.step r3 (Conc.Striped.Step.expandCopy _ 0 0 1 rfl (by decide))
  have r5 := Conc.Striped.Reach.step r4 (Conc.Striped.Step.expandPublish _ 0 1 1 rfl rfl)
  have r6 := Conc.Striped.Reach.step r5 (Conc.Striped.Step.unlock _ rfl)
  have r7 := Conc.Striped.Reach.step r6 (Conc.Striped.Step.lockCreate _ 1 1 rfl rfl (by decide))
  have r8 := Conc.Striped.Reach.step r7 (Conc.Striped.Step.createStore _ 1 1 rfl rfl)
  exact ⟨_, r8, rfl, rfl, rfl, rfl⟩

theorem skeleton_ring_add : Gen.Skeleton.ring_add = Conc.RingSkeleton.ring_add := rfl

theorem skeleton_ring_drainTo : Gen.Skeleton.ring_drainTo = Conc.RingSkeleton.ring_drainTo := rfl

theorem skeleton_Striped_Add : Gen.Skeleton.Striped_Add = Conc.RingSkeleton.Striped_Add := rfl

theorem skeleton_Striped_expandOrRetry : Gen.Skeleton.Striped_expandOrRetry = Conc.RingSkeleton.Striped_expandOrRetry := rfl

theorem skeleton_Striped_DrainTo : Gen.Skeleton.Striped_DrainTo = Conc.RingSkeleton.Striped_DrainTo := rfl

/-! ### Non-vacuity -/
example : (add (newRing 7) 8).2 = .success ∧ (drainTo (add (newRing 7) 8).1).2 = [7, 8] := by decide

/-! ### The ring and the table of rings, over the regenerated computations of internal/lossy -/

/-- a ring refuses iff sixteen entries wait; producers publish at tail mod 16, the consumer reads head mod 16 -/
theorem c17_gen_ring (head tail : BitVec 64) (h : head.toNat ≤ tail.toNat) :
    Gen.LossySites.ring_add_c0 (Gen.LossySites.ring_add_a2 head tail) = decide (tail.toNat - head.toNat ≥ Impl.Ring.bufferSize) ∧
    (Gen.LossySites.ring_add_x1 tail).toNat = tail.toNat % 16 ∧ (Gen.LossySites.ring_drainTo_a4 head).toNat = head.toNat % 16 ∧
    Gen.LossySites.ring_add_x0 tail = tail + 1#64 ∧ Gen.LossySites.ring_drainTo_u0 head = head + 1#64 ∧
    Gen.LossySites.ring_drainTo_c1 head tail = (head != tail) :=
  ⟨by unfold Gen.LossySites.ring_add_c0 Gen.LossySites.ring_add_a2
      rw [BitVec.ule_eq_decide, BitVec.toNat_sub_of_le (BitVec.le_def.2 h)]
      rfl,
   Bv.toNat_and_mask tail 15#64 4 rfl, Bv.toNat_and_mask head 15#64 4 rfl, rfl, rfl, rfl⟩

/-- the buffer's capacity is fixed: the table of rings is doubled only while shorter than its maximum, so with powers of two
    it never exceeds the maximum; a stripe index always lies inside the table -/
theorem c17_gen_table_bounded (len maxLen : BitVec 64) (stale : Bool) (a b : Nat) (hlen : len.toNat = 2 ^ a) (hmax : maxLen.toNat = 2 ^ b)
    (hb : b ≤ 31) (ha : a ≤ 31) (h : Gen.LossySites.Striped_expandOrRetry_c9 len maxLen stale = false) (idx : BitVec 32) :
    (Gen.LossySites.Striped_expandOrRetry_a15 len).toNat = 2 * len.toNat ∧
    (Gen.LossySites.Striped_expandOrRetry_a15 len).toNat ≤ maxLen.toNat ∧
    (Gen.LossySites.Striped_Add_x0 len idx).toNat < len.toNat :=
  ⟨(Proofs.LossyGen.grow_within_max len maxLen stale a b hlen hmax hb ha h).1,
   (Proofs.LossyGen.grow_within_max len maxLen stale a b hlen hmax hb ha h).2,
   Proofs.LossyGen.stripe_in_range len idx (hlen ▸ Nat.two_pow_pos a)⟩

/-- growing the table carries EVERY ring over (the copy loop starts at stripe 0, runs while below the old length, advances by
    one), and DrainTo walks every stripe the same way: an entry recorded in any ring is delivered -/
theorem c17_gen_every_stripe (len j : BitVec 64) (hl : len.toNat < 2 ^ 62) (hj : j.toNat < 2 ^ 62) :
    Gen.LossySites.Striped_expandOrRetry_a17 = 0#64 ∧
    Gen.LossySites.Striped_expandOrRetry_c13 len j = decide (j.toNat < len.toNat) ∧
    Gen.LossySites.Striped_expandOrRetry_u1 j = j + 1#64 ∧
    Gen.LossySites.Striped_DrainTo_a1 = 0#64 ∧ Gen.LossySites.Striped_DrainTo_c1 len j = decide (j.toNat < len.toNat) ∧
    Gen.LossySites.Striped_DrainTo_u0 j = j + 1#64 :=
  have hslt : BitVec.slt j len = decide (j.toNat < len.toNat) := Bv.slt_eq_decide_toNat j len (by omega) (by omega)
  ⟨rfl, hslt, rfl, rfl, hslt, rfl⟩

end OtterVerif.Props.C17
