/-
  C06 / C07 / C13 / C01 / C09 — automatic removals (size eviction, expiration sweep) inside the refinement Impl.Table ⊑ Spec.

  Impl.Table.evictNode transcribes cache.evictNode + cache.deleteNodeFromMap.  Proofs.TableEvict shows that what it reports is
  truthful by construction and that it is exactly the input the spec's `evict` judges.

  Not proven here: that the size policy only ever hands in a node under size pressure.  That is Proofs.PolicyJust about
  Impl.Policy; its running total is the table's total weight under the agreement `Agree` (Proofs.CacheAgree; the statements
  on the table are in Props/C04Table), and Props/C04Joint proves the node-state half of `Agree` for every single-goroutine
  history of the joint model of Proofs.CacheJoint.  On the code the agreement is checked by the UNIT-policy / SEQ engines.
-/
import OtterVerif.Proofs.TableEvict
import OtterVerif.Gen.CacheWrite
import OtterVerif.Gen.CacheRead
import OtterVerif.Proofs.PolicyJust

namespace OtterVerif.Props.C07Evict
open OtterVerif OtterVerif.Impl.Table OtterVerif.Proofs.TableRefine OtterVerif.Proofs.TableTrace OtterVerif.Proofs.TableEvict
open OtterVerif.Spec (Cause Event Out Entry Cfg Kind)

/-- deletion.go: CauseInvalidation = iota + 1, CauseReplacement, CauseOverflow, CauseExpiration -/
def causeCode : Cause → BitVec 64
  | .invalidation => 1#64 | .replacement => 2#64 | .overflow => 3#64 | .expiration => 4#64

/-- the cause evictNode reports, assembled from the regenerated pieces: the proposal (`cause := CauseOverflow; if
    n.HasExpired(now) { cause = CauseExpiration }`) passed through getCause (`if n.HasExpired(now) { return CauseExpiration };
    return cause`) -/
def evictCauseG (expired : Bool) : BitVec 64 :=
  let proposed := if Gen.CacheWrite.cache_evictNode_c0 expired then Gen.CacheWrite.cache_evictNode_a1 else Gen.CacheWrite.cache_evictNode_a0
  if Gen.CacheRead.getCause_c0 expired then Gen.CacheRead.getCause_r0 else Gen.CacheRead.getCause_r1 proposed

/-- C06 / C07: the model's cause is the code's, for both answers of HasExpired -/
theorem c07_gen_evict_cause (n : TNode) (now : Int) : evictCauseG (hasExpired n now) = causeCode (evictCause n now) := by
  unfold evictCauseG evictCause Gen.CacheWrite.cache_evictNode_c0 Gen.CacheWrite.cache_evictNode_a0
    Gen.CacheWrite.cache_evictNode_a1 Gen.CacheRead.getCause_c0 Gen.CacheRead.getCause_r0 Gen.CacheRead.getCause_r1
  cases hasExpired n now <;> rfl

/-- C06: getCause with a proposal: Expiration overrides, anything else is passed through — over the regenerated getCause -/
theorem c06_gen_getCause (n : TNode) (now : Int) (c : Cause) :
    (if Gen.CacheRead.getCause_c0 (hasExpired n now) then Gen.CacheRead.getCause_r0 else Gen.CacheRead.getCause_r1 (causeCode c))
      = causeCode (getCause n now c) := by
  unfold Gen.CacheRead.getCause_c0 Gen.CacheRead.getCause_r0 Gen.CacheRead.getCause_r1 getCause
  cases hasExpired n now <;> rfl

/-- C06: OnDeletion and the eviction statistics only for a node evictNode itself removed (`if deleted`), and `deleted` is
    "deleteNodeFromMap returned a node" — over the regenerated conditions -/
theorem c06_gen_evict_reports_only_removed (deletedNodeNotNil : Bool) :
    Gen.CacheWrite.cache_evictNode_c3 (Gen.CacheWrite.cache_evictNode_a2 deletedNodeNotNil) = deletedNodeNotNil := rfl

/-- C06 / C07: **truthful cause** — an automatic removal is reported as Expiration exactly when the deadline has passed at
    the clock value the removal uses, otherwise as Overflow; never as Invalidation or Replacement; with the mapped value -/
theorem c07_evict_cause_truthful (t : Tbl) (k : Nat) (same : Bool) (now : Int) (ev : Event)
    (h : ev ∈ (evictNode t k same now).2) :
    ∃ cur, lookup t k = some cur ∧ ev.val = cur.val ∧ ev.key = cur.key ∧
      (ev.cause = .expiration ↔ cur.exp ≤ now) ∧ (ev.cause = .overflow ↔ now < cur.exp) ∧
      ev.cause ≠ .invalidation ∧ ev.cause ≠ .replacement :=
  evict_cause_truthful t k same now ev h

/-- C06: at most one report, and only together with the removal; a stale node or an absent key reports nothing -/
theorem c06_evict_reports_iff_removed (t : Tbl) (k : Nat) (same : Bool) (now : Int) :
    ((evictNode t k same now).2 = [] ∧ (evictNode t k same now).1 = t) ∨
    (∃ ev, (evictNode t k same now).2 = [ev] ∧ (evictNode t k same now).1 = unlink t k ∧ same = true ∧ (lookup t k).isSome) :=
  evict_reports_iff_removed t k same now

/-- C01 / C07: evictNode is the spec's justified removal: when the spec accepts the (truthfully labelled) removal, the new
    table abstracts to the spec's map and the event is the spec's -/
theorem c07_evict_refines (c : Cfg) (s : Spec.State) (t : Tbl) (k : Nat) (same : Bool) (hs : s.m = absT t)
    (hwf : ∀ o, lookup t k = some o → o.key = k) (s' : Spec.State) (evs : List Event)
    (hacc : specEvict c s k same = some (s', evs)) :
    absT (evictNode t k same s.now).1 = s'.m ∧ (evictNode t k same s.now).2 = evs ∧ s'.now = s.now :=
  evict_refines c s t k same hs hwf s' evs hacc

/-- C09 / C08: an accepted removal unregisters the key's in-flight load in the spec (the code: singleflight.delete inside
    deleteNodeFromMap's computation), so a load that was running for the evicted entry installs nothing stale -/
theorem c09_evict_unregisters (c : Cfg) (s : Spec.State) (k : Nat) (e : Entry) (hp : s.phys k = some e) (s' : Spec.State)
    (evs : List Event) (hacc : specEvict c s k true = some (s', evs)) : s'.inflightOf k = none := by
  -- the removal is not one of the spec's no-ops: the key is mapped and the node is the mapped one
  rcases specEvict_some hacc with ⟨_, _, h | h⟩ | ⟨e', _, _, rfl, _⟩
  · exact nomatch hp.symm.trans h
  · cases h
  · exact Spec.inflightOf_clear_self _ k

/-- C20: an accepted automatic removal counts exactly one eviction with the removed entry's weight (the code: RecordEviction
    under `if deleted`, `c06_gen_evict_reports_only_removed`); a stale node or an absent key counts nothing -/
theorem c20_eviction_counted_once (c : Cfg) (s : Spec.State) (k : Nat) (same : Bool) (s' : Spec.State) (evs : List Event)
    (hacc : specEvict c s k same = some (s', evs)) :
    (evs = [] ∧ s'.stats = s.stats) ∨
    (∃ e, s.phys k = some e ∧ evs.length = 1 ∧ s'.stats.evictions = s.stats.evictions + 1 ∧
      s'.stats.evictionWeight = s.stats.evictionWeight + e.weight) := by
  rcases specEvict_some hacc with ⟨rfl, rfl, _⟩ | ⟨e, hp, _, rfl, rfl⟩
  · exact .inl ⟨rfl, rfl⟩
  · exact .inr ⟨e, hp, rfl, rfl, rfl⟩

/-- C13: the removal of an entry whose deadline has passed needs no further justification — once the wheel finds the node
    the spec accepts the Expiration report -/
theorem c13_expired_removal_accepted (c : Cfg) (s : Spec.State) (k : Nat) (e : Entry) (hp : s.phys k = some e)
    (hx : e.exp ≤ s.now) : (specEvict c s k true).isSome :=
  expired_evict_accepted c s k e hp hx

/-- C07: a live entry may go only under size pressure on a bounded cache, and never when it weighs nothing -/
theorem c07_live_removal_accepted_iff (c : Cfg) (s : Spec.State) (k : Nat) (e : Entry) (hp : s.phys k = some e)
    (hx : s.now < e.exp) :
    (specEvict c s k true).isSome ↔
      ∃ mx, s.maximum = some mx ∧ c.bounded = true ∧ e.weight ≠ 0 ∧ (s.totalWeight > mx ∨ e.weight > mx) :=
  live_evict_accepted_iff c s k e hp hx

/-- C01 / C06 / C07: **every history with automatic removals at arbitrary points** — as long as the spec accepts each
    removal (judged with its truthful cause in the state it happens in), Impl.Table and the spec return the same results,
    report the same atomic deletion events at every step, and end with the same map -/
theorem c07_every_history_with_removals (c : Cfg) (hk1 : KindOk c.expiry) (hk2 : KindOk c.refresh) (hr : ReadOk c)
    (ops : List XOp) (is : IState) (ss : Spec.State) (hm : ss.m = absT is.t) (hnow : ss.now = is.now) (hok : AllOk is.t)
    (hclk : XClockOk is.now ops) (q : Spec.State × List (Out × List Event)) (hq : xsrun c ss ops = some q) :
    (xirun c is ops).2 = q.2 ∧ q.1.m = absT (xirun c is ops).1.t :=
  xhistory_sim c hk1 hk2 hr ops is ss hm hnow hok hclk q hq

/-! ### the policy's guard is the spec's size pressure (glue between Proofs.PolicyJust and the table refinement)

The policy side: every node Impl.Policy hands to the eviction callback is removed from a policy state with
`maximum < weightedSize` (`Just.evict`), and `evictNodes_nonzero`: it weighs something.  IF the policy's running total is the
table's total weight and its maximum the cache's, then the spec accepts the removal of that (live) node.  Here the two
equalities are hypotheses (`hpm`, `hws`); `c07_overflow_justified_at_table` (Props/C04Table) derives `hws` from `Agree` at
quiescence. -/
theorem c07_policy_guard_is_spec_pressure (p : Impl.Policy.Policy) (c : Cfg) (s : Spec.State) (k : Nat) (e : Entry) (mx : Nat)
    (hmax : s.maximum = some mx) (hpm : p.maximum.toNat = mx) (hws : p.weightedSize.toNat = s.totalWeight)
    (hb : c.bounded = true) (hp : s.phys k = some e) (hx : s.now < e.exp) (hw : e.weight ≠ 0)
    (hg : BitVec.ult p.maximum p.weightedSize = true) : (specEvict c s k true).isSome :=
  (live_evict_accepted_iff_guard c s k e hp hx hmax hpm hws).mpr ⟨hb, hw, .inl hg⟩

/-- and conversely: within the maximum (policy guard false, entry not oversized) the spec rejects any Overflow report -/
theorem c07_no_pressure_no_overflow (p : Impl.Policy.Policy) (c : Cfg) (s : Spec.State) (k : Nat) (e : Entry) (mx : Nat)
    (hmax : s.maximum = some mx) (hpm : p.maximum.toNat = mx) (hws : p.weightedSize.toNat = s.totalWeight)
    (hp : s.phys k = some e) (hx : s.now < e.exp) (hle : e.weight ≤ mx)
    (hg : BitVec.ult p.maximum p.weightedSize = false) : (specEvict c s k true).isSome = false :=
  Bool.eq_false_iff.mpr fun h =>
    ((live_evict_accepted_iff_guard c s k e hp hx hmax hpm hws).mp h).2.2.elim (fun h => nomatch hg.symm.trans h)
      (Nat.not_lt.mpr hle)

/-! ### non-vacuity: a concrete history with a write, a clock jump past the deadline and the sweep's removal -/

def exCfg : Cfg := { expiry := .writing 10 }
def exOps : List XOp := [.base (.set 1 7), .base (.advance 11), .evict 1 true, .base (.get 1)]

example : (xsrun exCfg { now := 0 } exOps).isSome = true := by decide
example : ((xirun exCfg { now := 0, t := [] } exOps).2.map (·.2)) =
    [[], [], [{ key := 1, val := 7, cause := .expiration }], []] := by decide
example : KindOk exCfg.expiry ∧ KindOk exCfg.refresh := by
  refine ⟨?_, ?_⟩ <;> simp [exCfg, KindOk]

end OtterVerif.Props.C07Evict
